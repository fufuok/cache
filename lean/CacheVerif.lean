import CacheVerif.Deep.Interp
import CacheVerif.Deep.Janitor
import CacheVerif.Deep.SimpAttr
import CacheVerif.Deep.Step
import CacheVerif.Deep.Syntax
import CacheVerif.Deep.TInterp
import CacheVerif.Deep.TSyntax
import CacheVerif.Deep.Twins
import CacheVerif.Deep.Wrapper
import CacheVerif.Expect.Alloc
import CacheVerif.Expect.Cache
import CacheVerif.Expect.Ctor
import CacheVerif.Expect.DoCompute
import CacheVerif.Expect.Load
import CacheVerif.Expect.Lock
import CacheVerif.Expect.Range
import CacheVerif.Expect.Resize
import CacheVerif.Expect.XsyncOther
import CacheVerif.Generated.Deep
import CacheVerif.Generated.DeepCtor
import CacheVerif.Generated.DeepSimp
import CacheVerif.Generated.Facts
import CacheVerif.Generated.Leaf
import CacheVerif.Generated.TableLoad
import CacheVerif.Generated.Wrappers
import CacheVerif.GoPrelude
import CacheVerif.Model.Cache
import CacheVerif.Model.CacheOf
import CacheVerif.Model.ConcCache
import CacheVerif.Model.Proto
import CacheVerif.Model.ProtoApi
import CacheVerif.Model.SlotMap
import CacheVerif.Model.SlotMapOf
import CacheVerif.Model.Table
import CacheVerif.Model.Types
import CacheVerif.Model.Words
import CacheVerif.Proofs.AMapFilter
import CacheVerif.Proofs.CacheLedger
import CacheVerif.Proofs.CacheRefine
import CacheVerif.Proofs.CacheWalk
import CacheVerif.Proofs.Chains
import CacheVerif.Proofs.ConcCacheLin
import CacheVerif.Proofs.ConcCacheSolo
import CacheVerif.Proofs.ConcCacheStep
import CacheVerif.Proofs.CopyRep
import CacheVerif.Proofs.DeepActions
import CacheVerif.Proofs.DeepAppend
import CacheVerif.Proofs.DeepCache
import CacheVerif.Proofs.DeepCacheOf
import CacheVerif.Proofs.DeepJanitor
import CacheVerif.Proofs.DeepLoad
import CacheVerif.Proofs.DeepLoadM
import CacheVerif.Proofs.DeepSimpSet
import CacheVerif.Proofs.DeepSize
import CacheVerif.Proofs.DeepSource
import CacheVerif.Proofs.DeepT
import CacheVerif.Proofs.DeepTrace
import CacheVerif.Proofs.DeepTraceOf
import CacheVerif.Proofs.DoCompute
import CacheVerif.Proofs.LeafBits
import CacheVerif.Proofs.LeafCache
import CacheVerif.Proofs.ProtoClear
import CacheVerif.Proofs.ProtoCompose
import CacheVerif.Proofs.ProtoData
import CacheVerif.Proofs.ProtoHW
import CacheVerif.Proofs.ProtoHold
import CacheVerif.Proofs.ProtoLin
import CacheVerif.Proofs.ProtoLocks
import CacheVerif.Proofs.ProtoRange
import CacheVerif.Proofs.ProtoStep
import CacheVerif.Proofs.Runs
import CacheVerif.Proofs.SimpSets
import CacheVerif.Proofs.SlotMapHindsight
import CacheVerif.Proofs.SlotMapOfBasic
import CacheVerif.Proofs.SlotMapOfHindsight
import CacheVerif.Proofs.SlotMapOfInv
import CacheVerif.Proofs.SlotMapReader
import CacheVerif.Proofs.SlotMapRep
import CacheVerif.Proofs.SlotScheme
import CacheVerif.Proofs.StoreSpec
import CacheVerif.Proofs.TableRefine
import CacheVerif.Proofs.Twin
import CacheVerif.Proofs.Words
import CacheVerif.Proofs.WordsInv
import CacheVerif.Proofs.Wrappers
import CacheVerif.Props.C01
import CacheVerif.Props.C02
import CacheVerif.Props.C03
import CacheVerif.Props.C04
import CacheVerif.Props.C05
import CacheVerif.Props.C06
import CacheVerif.Props.C07
import CacheVerif.Props.C08
import CacheVerif.Props.C09
import CacheVerif.Props.C10
import CacheVerif.Props.C11
import CacheVerif.Props.C12
import CacheVerif.Props.C13
import CacheVerif.Props.C14
import CacheVerif.Props.C15
import CacheVerif.Props.C16
import CacheVerif.Spec.AMap
import CacheVerif.Spec.Linearizability
import CacheVerif.Spec.TTL
