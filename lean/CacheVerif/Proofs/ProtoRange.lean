import CacheVerif.Proofs.ProtoData
/-!
# M4a invariants: a traversal misses no entry that stays put

`Range` loads the table pointer once and walks the root buckets of *that* generation, snapshotting each under its
lock.  While it runs the generation may be retired by a grow, a shrink or a `Clear`.  For every schedule, a pair
`(k, v)` that is bound in the *current* table at every instant between the call and its return is handed to the
visitor (if the visitor never stops the traversal):

* a generation retired by a grow/shrink is frozen: after the resizer has set the flag, every root bucket is locked and
  copied before the new table is published, so no writer that passed its two checks (`resizing`, `cur`) can still be
  inside its critical section on the old table (`NoStraggler`, from the resizer/writer pairing of `ProtoData`);
* a generation retired by `Clear` is *not* frozen (`Clear` locks no bucket) - but then the key is not bound in the new,
  empty table, which the hypothesis excludes;
* so the binding of `k` in the traversed generation stays what it was when the traversal began, the bucket of `k` is
  snapshotted exactly once, and the pair is in that snapshot (`ProgAt`).

The visitor may run nested calls on the same container, `Range` among them (`frames`).  One traversal is followed
through the stack of suspended ones as a machine of its own (`travAt`, `Move`): an invariant of its moves is an invariant
of the thread, for the traversal at one depth (`TravInv.step`) or for all of them at once (`AllTrav.step`).
-/
set_option linter.unusedSectionVars false
namespace Proofs.ProtoRange
open Spec Model.Proto Proofs.ProtoLocks Proofs.ProtoData Proofs.ProtoLin

variable {K V : Type} [DecidableEq K]
variable {p : Params K} {s s' s1 : St K V} {t u : Tid} {c : Choice K V} {g g' : G K V} {l l' : L K V} {T d : Nat}
  {k : K} {v : V} {sts : List (St K V)}

/-! ## what a traversal holds -/

def TravOK (p : Params K) (g : G K V) (tbl ri : Nat) (visited snap : List (K × V)) : Prop :=
  (AMap.keys (visited ++ snap)).Nodup ∧ ∀ e ∈ visited ++ snap, bucketOf p g tbl e.1 ≤ ri

theorem TravOK.snapshot {tbl ri : Nat} {vs : List (K × V)} (hw : AMap.WF (g.tables tbl).data)
    (h : TravOK p g tbl ri vs []) (hlt : ∀ e ∈ vs, bucketOf p g tbl e.1 < ri) :
    TravOK p g tbl ri vs (bucketEntries p g tbl ri) := by
  rw [TravOK, List.append_nil] at h
  refine ⟨?_, fun e he => (List.mem_append.mp he).elim (fun h => Nat.le_of_lt (hlt e h)) fun h => Nat.le_of_eq (mem_bucketEntries.mp h).2⟩
  rw [AMap.keys_append]
  refine List.nodup_append.mpr ⟨h.1, AMap.WF_filter _ _ hw, fun a ha b hb hab => ?_⟩
  subst hab
  obtain ⟨v, hv⟩ := (AMap.mem_keys _ _).mp ha
  obtain ⟨w, hw⟩ := (AMap.mem_keys _ _).mp hb
  exact Nat.lt_irrefl _ ((mem_bucketEntries.mp hw).2 ▸ hlt _ hv)

def inRg (pc : Pc) : Bool := rgPc pc || pc == .rgTable

/-! ## a retired generation is frozen -/

/-- a writer that has passed both checks (`resizing` lowered, `cur` unchanged) and has not committed yet -/
def pastChk2 : Pc → Bool
  | .dcScan | .dcSum | .dcFn | .dcCommit => true
  | _ => false

theorem pastChk2_eq : pastChk2 = past2 := by
  funext pc; cases pc <;> rfl

def NoStraggler (s : St K V) (T : Nat) : Prop :=
  T ≠ s.g.cur → ∀ w, pastChk2 (s.l w).pc = true → (s.l w).tbl ≠ T

/-- **a generation without stragglers is frozen once it is retired.**  A step leaves generation `T` without stragglers -
unless it is the publish step of a `Clear` that retires `T`: `Clear` locks no bucket - and changes its data only while `T`
is current -/
theorem nos_step (hmin : 0 < p.minLen) (hreach : Reach p s) (hs : step p s t c = some s')
    (hT : T ≤ s.g.cur) (hns : NoStraggler s T)
    (hnc : ¬ ((s.l t).pc = .rzPublish ∧ (s.l t).hint = .clear ∧ T = s.g.cur)) :
    NoStraggler s' T ∧ T ≤ s'.g.cur ∧ ((s'.g.tables T).data = (s.g.tables T).data ∨ T = s'.g.cur) := by
  have hts := (step_def hs).1
  simp only [NoStraggler, pastChk2_eq] at hns ⊢
  refine ⟨fun hne w hw hwT => ?_, Nat.le_trans hT (cur_le_step hmin hreach hts), ?_⟩
  · -- a straggler on `T` was one before the step, or `T` is retired by the step, the publish of a `Clear`
    obtain ⟨e1, -, hp, -, -, e6⟩ := straggler_step hmin hreach hs hw (hwT ▸ hne)
    rw [e1] at hwT
    by_cases hTc : T = s.g.cur
    · exact hnc ⟨(e6 (hwT.trans hTc)).1, (e6 (hwT.trans hTc)).2, hTc⟩
    · exact hns hTc w hp hwT
  · -- a commit goes to the table its writer checked
    refine (published_frame (inv_reach hreach).1 ((dinv_reach hmin hreach).ld t) hts T hT).imp_right
      fun ⟨hpc, htbl, hc, _⟩ => ?_
    rw [hc]
    exact Classical.byContradiction fun hTc => hns hTc t (by rw [hpc]; rfl) htbl

/-! ## one traversal as a machine of its own -/

theorem reverse_cons_get_lt {α : Type} (x : α) (l : List α) (d : Nat) (h : d < l.length) :
    (x :: l).reverse[d]? = l.reverse[d]? := by
  rw [List.reverse_cons, List.getElem?_append_left (by simpa using h)]

theorem reverse_cons_get_eq {α : Type} (x : α) (l : List α) : (x :: l).reverse[l.length]? = some x := by
  rw [List.reverse_cons, List.getElem?_append_right (by simp)]; simp

/-- the traversal at depth `d` of a thread's stack and the pc it is at: the one in hand, or a suspended one, which
waits at `rgVisit` for the nested call of its visitor to return -/
def travAt (d : Nat) (l : L K V) : Option (Pc × Frame K V) :=
  if l.frames.length = d then some (l.pc, regs l) else l.frames.reverse[d]?.map (Pc.rgVisit, ·)

/-- the moves of one traversal.  `stay` is whatever else the thread does: steps of the calls its visitor makes, their
start, which suspends the traversal, and their return, which resumes it -/
inductive Move (p : Params K) (g : G K V) (c : Choice K V) : Pc × Frame K V → Pc × Frame K V → Prop
  | stay x : Move p g c x x
  | load f : Move p g c (.rgTable, f) (.rgLock, { f with tbl := g.cur, ri := 0, visited := [] })
  | lock f : Move p g c (.rgLock, f) (.rgCopy, f)
  | done f : ¬ f.ri < (g.tables f.tbl).len → Move p g c (.rgLock, f) (.ret, f)
  | copy f : Move p g c (.rgCopy, f) (.rgUnlock, { f with snap := bucketEntries p g f.tbl f.ri })
  | unlock f : Move p g c (.rgUnlock, f) (.rgVisit, f)
  | next f : f.snap = [] → Move p g c (.rgVisit, f) (.rgLock, { f with ri := f.ri + 1 })
  | visit f e rest : f.snap = e :: rest → c.cont = true →
      Move p g c (.rgVisit, f) (.rgVisit, { f with snap := rest, visited := f.visited ++ [e] })
  | stop f e rest : f.snap = e :: rest → ¬ c.cont = true →
      Move p g c (.rgVisit, f) (.ret, { f with snap := [], visited := f.visited ++ [e] })

theorem Move.tbl {x y : Pc × Frame K V} (h : Move p g c x y) (hrg : rgPc x.1 = true) : y.2.tbl = x.2.tbl := by
  cases h <;> first | rfl | cases hrg

def Alive (d : Nat) (l : L K V) (x : Pc × Frame K V) : Prop :=
  rgPc x.1 = true ∨ l.frames.length = d ∧ l.pc = .ret ∧ l.result = some (.visits x.2.visited)

theorem travAt_step (hs : tstep p t g l c = some (g', l')) {x : Pc × Frame K V} (h : travAt d l = some x)
    (hrg : rgPc x.1 = true) : ∃ y, travAt d l' = some y ∧ Move p g c x y ∧ Alive d l' y := by
  unfold travAt at h
  by_cases hd : l.frames.length = d
  · rw [if_pos hd] at h
    cases h
    cases hpc : l.pc <;> rw [hpc] at hrg <;> simp only [rgPc, reduceCtorEq] at hrg <;> simp only [tstep, hpc] at hs
    · -- rgLock
      (repeat' split at hs) <;> cases hs
      · exact ⟨_, if_pos hd, .lock _, .inl rfl⟩
      · exact ⟨_, if_pos hd, .done _ ‹_›, .inr ⟨hd, rfl, rfl⟩⟩
    · cases hs; exact ⟨_, if_pos hd, .copy _, .inl rfl⟩
    · cases hs; exact ⟨_, if_pos hd, .unlock _, .inl rfl⟩
    · -- rgVisit
      split at hs
      · -- the visitor starts a nested call: the traversal in hand becomes the suspended traversal at the top of the stack
        cases hs
        refine ⟨_, ?_, .stay _, .inl rfl⟩
        unfold travAt
        rw [startOp_frames, if_neg (by simp only [List.length_cons]; omega), ← hd, reverse_cons_get_eq]; rfl
      · (repeat' split at hs) <;> cases hs
        · exact ⟨_, if_pos hd, .next _ ‹_›, .inl rfl⟩
        · exact ⟨_, if_pos hd, .visit _ _ _ ‹_› ‹_›, .inl rfl⟩
        · exact ⟨_, if_pos hd, .stop _ _ _ ‹_› ‹_›, .inr ⟨hd, rfl, rfl⟩⟩
  · -- a suspended traversal stays as it is; when it is resumed, its registers are those of the frame
    rw [if_neg hd] at h
    obtain ⟨f, hf, rfl⟩ := Option.map_eq_some_iff.mp h
    have hlt : d < l.frames.length := by simpa using (List.getElem?_eq_some_iff.mp hf).1
    refine ⟨_, ?_, .stay _, .inl rfl⟩
    unfold travAt
    rcases frames_step hs with ⟨h, -⟩ | ⟨-, h, -⟩ | ⟨-, f0, fs, h0, h1, h2, h3⟩
    · rw [h, if_neg hd, hf]; rfl
    · rw [h, List.length_cons, if_neg (by omega), reverse_cons_get_lt _ _ _ hlt, hf]; rfl
    · rw [h0] at hf hlt
      rw [List.length_cons] at hlt
      by_cases hfd : fs.length = d
      · rw [← hfd, reverse_cons_get_eq] at hf
        cases hf
        rw [h1, if_pos hfd, h2, h3]
      · rw [h1, if_neg hfd, ← reverse_cons_get_lt f0 fs d (by omega), hf]; rfl

def TravInv (T d : Nat) (Ψ : Pc → Frame K V → Prop) (l : L K V) : Prop :=
  ∃ x, travAt d l = some x ∧ x.2.tbl = T ∧ Ψ x.1 x.2 ∧ Alive d l x

variable {Ψ : Pc → Frame K V → Prop}

theorem TravInv.live (hd : l.frames.length = d) (hT : l.tbl = T) (hrg : rgPc l.pc = true) (hΨ : Ψ l.pc (regs l)) :
    TravInv T d Ψ l :=
  ⟨_, if_pos hd, hT, hΨ, .inl hrg⟩

theorem TravInv.ret (h : TravInv T d Ψ l) (hd : l.frames.length = d) (hpc : l.pc = .ret) :
    ∃ f, l.result = some (.visits f.visited) ∧ Ψ .ret f := by
  obtain ⟨x, hx, -, hΨ, hr⟩ := h
  rw [travAt, if_pos hd, hpc] at hx
  cases hx
  exact ⟨_, (hr.resolve_left (by simp [rgPc])).2.2, hΨ⟩

theorem TravInv.step (h : TravInv T d Ψ l) (hs : tstep p t g l c = some (g', l'))
    (hnr : ¬ (l.pc = .ret ∧ l.frames.length = d))
    (hΨ : ∀ x y, Move p g c x y → x.2.tbl = T → Ψ x.1 x.2 → Ψ y.1 y.2) : TravInv T d Ψ l' := by
  obtain ⟨x, hx, hT, hψ, hr⟩ := h
  have hrg := hr.resolve_right fun h => hnr ⟨h.2.1, h.1⟩
  obtain ⟨y, hy, hm, hr'⟩ := travAt_step hs hx hrg
  exact ⟨y, hy, (hm.tbl hrg).trans hT, hΨ x y hm hT hψ, hr'⟩

/-! ## every traversal of a thread at once -/

def AllTrav (Ψ : Pc → Frame K V → Prop) (l : L K V) : Prop :=
  (inRg l.pc = true → Ψ l.pc (regs l)) ∧ ∀ f ∈ l.frames, Ψ .rgVisit f

theorem startOp_range (l : L K V) (op : POp K V) (h : inRg (startOp l op).pc = true) :
    (startOp l op).pc = .rgTable ∧ regs (startOp l op) = ⟨l.tbl, 0, [], []⟩ := by
  rcases op with _ | ⟨_, _, _ | _, _⟩ | _ | _ | _ <;> first | exact ⟨rfl, rfl⟩ | cases h

theorem AllTrav.step (h : AllTrav Ψ l) (hs : tstep p t g l c = some (g', l'))
    (hΨ : ∀ x y, Move p g c x y → inRg y.1 = true → Ψ x.1 x.2 → Ψ y.1 y.2) (h0 : ∀ T, Ψ .rgTable ⟨T, 0, [], []⟩) :
    AllTrav Ψ l' := by
  refine ⟨fun hrd => ?_, fun f hf => ?_⟩
  · -- the steps that lead to a pc of `Range`: the start of a call, the six steps of a traversal, the return into the visitor
    have hsrc := pc_entry inRg _ (fun _ h => h) hs hrd
    have h1 := h.1
    cases hpc : l.pc <;> rw [hpc] at hsrc <;> cases hsrc <;> simp only [tstep, hpc] at hs h1 <;>
      (repeat' split at hs) <;> cases hs
    · -- idle
      obtain ⟨e1, e2⟩ := startOp_range _ _ hrd
      rw [e1, e2]; exact h0 _
    · -- rgTable
      exact hΨ (_, _) (_, _) (.load _) rfl (h1 rfl)
    · -- rgLock
      exact hΨ (_, _) (_, _) (.lock _) rfl (h1 rfl)
    · -- rgLock past the last bucket: to `ret`
      cases hrd
    · -- rgCopy
      exact hΨ (_, _) (_, _) (.copy _) rfl (h1 rfl)
    · -- rgUnlock
      exact hΨ (_, _) (_, _) (.unlock _) rfl (h1 rfl)
    · -- rgVisit, the visitor starts a nested call
      obtain ⟨e1, e2⟩ := startOp_range _ _ hrd
      rw [e1, e2]; exact h0 _
    · -- rgVisit, the snapshot is used up
      exact hΨ (_, _) (_, _) (.next _ ‹_›) rfl (h1 rfl)
    · -- rgVisit, next pair
      exact hΨ (_, _) (_, _) (.visit _ _ _ ‹_› ‹_›) rfl (h1 rfl)
    · -- rgVisit, the visitor stops the traversal: to `ret`
      cases hrd
    · -- ret to `idle`
      cases hrd
    · -- ret into the visitor
      exact h.2 _ (by rw [‹l.frames = _›]; exact List.mem_cons_self)
  · rcases frames_step hs with ⟨e, -⟩ | ⟨hpc, e, -⟩ | ⟨-, f0, fs, e0, e1, -⟩
    · exact h.2 f (e ▸ hf)
    · rcases List.mem_cons.mp (e ▸ hf) with rfl | hf
      · exact hpc ▸ h.1 (by rw [hpc]; rfl)
      · exact h.2 f hf
    · exact h.2 f (e0 ▸ List.mem_cons_of_mem _ (e1 ▸ hf))

/-- the second clause (bucket `ri` not snapshotted yet) is what makes the keys of its snapshot new (`TravOK.snapshot`) -/
def rdOK (p : Params K) (g : G K V) (pc : Pc) (f : Frame K V) : Prop :=
  TravOK p g f.tbl f.ri f.visited f.snap ∧
  (pc = .rgTable ∨ pc = .rgLock ∨ pc = .rgCopy → f.snap = [] ∧ ∀ e ∈ f.visited, bucketOf p g f.tbl e.1 < f.ri)

theorem rdOK.move {x y : Pc × Frame K V} (hgd : GD g) (hm : Move p g c x y) (hy : inRg y.1 = true)
    (h : rdOK p g x.1 x.2) : rdOK p g y.1 y.2 := by
  cases hm with
  | stay => exact h
  | done | stop => cases hy
  | load f =>
    have hsn : f.snap = [] := (h.2 (.inl rfl)).1
    refine ⟨?_, fun _ => ⟨hsn, nofun⟩⟩
    show TravOK p g g.cur 0 [] f.snap
    rw [hsn]; exact ⟨.nil, nofun⟩
  | lock f => exact ⟨h.1, fun _ => h.2 (.inr (.inl rfl))⟩
  | copy f =>
    obtain ⟨hsn, hlt⟩ := h.2 (.inr (.inr rfl))
    exact ⟨.snapshot (hgd.wf _) (hsn ▸ h.1) hlt, by simp⟩
  | unlock f => exact ⟨h.1, by simp⟩
  | next f hsn =>
    exact ⟨⟨h.1.1, fun e he => Nat.le_succ_of_le (h.1.2 e he)⟩,
      fun _ => ⟨hsn, fun e he => Nat.lt_succ_of_le (h.1.2 e (List.mem_append_left _ he))⟩⟩
  | visit f e rest hsn => exact ⟨by have := h.1; rwa [hsn, TravOK, List.append_cons] at this, by simp⟩

theorem rdOK.congr {pc : Pc} {f : Frame K V} (hlen : (g'.tables f.tbl).len = (g.tables f.tbl).len)
    (h : rdOK p g pc f) : rdOK p g' pc f :=
  ⟨⟨h.1.1, fun e he => by rw [bucketOf_congr hlen]; exact h.1.2 e he⟩, fun hpc => ⟨(h.2 hpc).1, fun e he => by
    rw [bucketOf_congr hlen]; exact (h.2 hpc).2 e he⟩⟩

/-- the part of the data invariant (`ProtoData.GD`, `LD`) about `Range` -/
def RD (p : Params K) (g : G K V) : L K V → Prop := AllTrav (rdOK p g)

theorem RD_congr (hcur : g.cur < g.ntables)
    (hlen : ∀ T, T < g.ntables → (g'.tables T).len = (g.tables T).len)
    (ht : l.tbl ≤ g.cur) (hf : ∀ f ∈ l.frames, f.tbl ≤ g.cur) (hr : RD p g l) : RD p g' l :=
  ⟨fun h => (hr.1 h).congr (hlen l.tbl (by omega)), fun f hf' => (hr.2 f hf').congr (hlen f.tbl (by have := hf f hf'; omega))⟩

theorem self_RD (hgd : GD g) (hr : RD p g l) (hs : tstep p t g l c = some (g', l')) : RD p g l' :=
  hr.step hs (fun _ _ => rdOK.move hgd) fun _ => ⟨⟨.nil, nofun⟩, fun _ => ⟨rfl, nofun⟩⟩

def RInv (p : Params K) (s : St K V) : Prop := ∀ u, RD p s.g (s.l u)

theorem rinv_step {s s' : St K V} (hi : Inv s) (hd : DInv p s) (hr : RInv p s) (hs : step p s t c = some s') :
    RInv p s' := by
  obtain ⟨g', l', heq, rfl⟩ := step_cases hs
  have hlen := step_len heq
  intro u
  dsimp only
  by_cases hu : u = t
  · rw [if_pos hu]
    obtain ⟨h1, h2⟩ := tblLe_step (hd.ld t) heq
    exact RD_congr hi.1.2 hlen h1 h2 (self_RD hd.gd (hr t) heq)
  · rw [if_neg hu]
    exact RD_congr hi.1.2 hlen (hd.ld u).tblLe (hd.ld u).framesLe (hr u)

theorem rinv_reach (hmin : 0 < p.minLen) (h : Reach p s) : RInv p s :=
  reach_induction (RInv p) (fun _ => ⟨nofun, nofun⟩)
    (fun _ _ _ _ hr hri hs => rinv_step (inv_reach hr) (dinv_reach hmin hr) hri hs) h

/-- progress of a traversal towards the pair `e` of root bucket `b`: the pair has been handed over or is in the snapshot
in hand, or bucket `b` has not been snapshotted yet -/
def ProgAt (b : Nat) (e : K × V) : Pc → Frame K V → Prop
  | .rgLock, f | .rgCopy, f => e ∈ f.visited ∨ f.ri ≤ b
  | .rgUnlock, f | .rgVisit, f => e ∈ f.visited ++ f.snap ∨ f.ri < b
  | _, f => e ∈ f.visited

theorem ProgAt.move {x y : Pc × Frame K V} {b : Nat} {e : K × V} (hm : Move p g c x y) (h : ProgAt b e x.1 x.2)
    (hcont : c.cont = true) (hlen : b < (g.tables x.2.tbl).len) (hin : e ∈ bucketEntries p g x.2.tbl b) :
    ProgAt b e y.1 y.2 := by
  cases hm with
  | stay | lock | unlock => exact h
  | load f => exact .inr (Nat.zero_le _)
  | done f hge => exact h.resolve_right fun hb => hge (Nat.lt_of_le_of_lt hb hlen)
  | copy f =>
    refine h.elim (fun h => .inl (List.mem_append_left _ h)) fun h => (Nat.eq_or_lt_of_le h).imp (fun hb => ?_) id
    exact List.mem_append_right _ (hb ▸ hin)
  | next f hsn => exact h.imp (fun h => by simpa [hsn] using h) Nat.succ_le_of_lt
  | visit f e0 rest hsn => exact h.imp_left fun h => by simpa [hsn] using h
  | stop f e0 rest hsn hc => exact absurd hcont hc

/-! ## the window of one `Range` call -/

structure WInv (p : Params K) (u : Tid) (T b d : Nat) (k : K) (v : V) (s : St K V) : Prop where
  tle : T ≤ s.g.cur
  bk : bucketOf p s.g T k = b
  data : (s.g.tables T).data.get k = some v
  nos : NoStraggler s T
  prog : TravInv T d (ProgAt b (k, v)) (s.l u)

def RangeInv (p : Params K) (u : Tid) (d : Nat) (k : K) (v : V) (s : St K V) : Prop :=
  absGet s.g k = some v ∧
  (((s.l u).pc = .rgTable ∧ (s.l u).frames.length = d) ∨ ∃ T b, WInv p u T b d k v s)

theorem range_step (hmin : 0 < p.minLen) (hreach : Reach p s) (hr : RangeInv p u d k v s)
    (hnr : ¬ ((s.l u).pc = .ret ∧ (s.l u).frames.length = d)) (hs : step p s t c = some s')
    (hcont : t = u → c.cont = true) (habs' : absGet s'.g k = some v) : RangeInv p u d k v s' := by
  have hi := inv_reach hreach
  have hd := dinv_reach hmin hreach
  refine ⟨habs', ?_⟩
  obtain ⟨g', l', heq, rfl⟩ := step_cases hs
  dsimp only at habs' ⊢
  rcases hr.2 with ⟨hpc, hfl⟩ | ⟨T, b, hw⟩
  · by_cases htu : t = u
    · subst htu
      simp only [tstep, hpc, Option.some.injEq, Prod.mk.injEq] at heq
      obtain ⟨rfl, rfl⟩ := heq
      refine Or.inr ⟨s.g.cur, bucketOf p s.g s.g.cur k, Nat.le_refl _, rfl, hr.1, fun h => absurd rfl h, ?_⟩
      dsimp only
      rw [if_pos rfl]
      exact .live hfl rfl rfl (Or.inr (Nat.zero_le _))
    · rw [if_neg (Ne.symm htu)]
      exact Or.inl ⟨hpc, hfl⟩
  · -- the empty table of a `Clear` does not bind `k`
    obtain ⟨hns, hle, hdat⟩ := nos_step hmin hreach hs hw.tle hw.nos fun ⟨e, hh, _⟩ => by
      rw [clear_publish_empties p hmin s hreach t c g' l' e hh heq k] at habs'; cases habs'
    have hlen := step_len heq T (Nat.lt_of_le_of_lt hw.tle hi.1.2)
    refine Or.inr ⟨T, b, hle, by rw [bucketOf_congr hlen]; exact hw.bk,
      hdat.elim (fun e => e ▸ hw.data) (fun e => by rw [e]; exact habs'), hns, ?_⟩
    dsimp only
    by_cases htu : t = u
    · subst htu
      rw [if_pos rfl]
      refine hw.prog.step heq hnr fun x y hm hT h => h.move hm (hcont rfl) ?_ ?_ <;> rw [hT, ← hw.bk]
      · exact Nat.mod_lt _ (hd.gd.lenPos _)
      · exact mem_bucketEntries.mpr ⟨AMap.mem_of_get _ _ _ hw.data, rfl⟩
    · rw [if_neg (Ne.symm htu)]; exact hw.prog

inductive Window (p : Params K) (u : Tid) (d : Nat) (k : K) (v : V) : St K V → St K V → Prop
  | refl (s : St K V) : Window p u d k v s s
  | step (s s' s1 : St K V) (t : Tid) (c : Choice K V) :
      ¬ ((s.l u).pc = .ret ∧ (s.l u).frames.length = d) → Model.Proto.step p s t c = some s' →
      (t = u → c.cont = true) → absGet s'.g k = some v → Window p u d k v s' s1 → Window p u d k v s s1

theorem range_window (hmin : 0 < p.minLen) (hw : Window p u d k v s s1) (hreach : Reach p s)
    (hr : RangeInv p u d k v s) : RangeInv p u d k v s1 := by
  induction hw with
  | refl s => exact hr
  | step s s' s1 t c hnr hs hcont habs _ ih => exact ih (reach_step hreach hs) (range_step hmin hreach hr hnr hs hcont habs)

/-! ## the window as the list of states the call went through -/

/-- `sts` are the states from `s` to `s1` (both included) of an execution fragment during which the call of thread `u`
at depth `d` does not return (except in `s1`) and the visitor of `u` never stops a traversal -/
inductive Trav (p : Params K) (u : Tid) (d : Nat) : St K V → List (St K V) → St K V → Prop
  | refl (s : St K V) : Trav p u d s [s] s
  | step (s s' s1 : St K V) (t : Tid) (c : Choice K V) (sts : List (St K V)) :
      ¬ ((s.l u).pc = .ret ∧ (s.l u).frames.length = d) → Model.Proto.step p s t c = some s' →
      (t = u → c.cont = true) → Trav p u d s' sts s1 → Trav p u d s (s :: sts) s1

theorem Trav.head_mem (h : Trav p u d s sts s1) : s ∈ sts := by
  cases h <;> simp

theorem Trav.reach (h : Trav p u d s sts s1) (h0 : Reach p s) : Reach p s1 := by
  induction h with
  | refl s => exact h0
  | step s s' s1 t c sts _ hs _ _ ih => exact ih (reach_step h0 hs)

theorem Trav.window {p : Params K} {u : Tid} {d : Nat} {s s1 : St K V} {sts : List (St K V)}
    (h : Trav p u d s sts s1) (k : K) (v : V) (hall : ∀ σ ∈ sts, absGet σ.g k = some v) : Window p u d k v s s1 := by
  induction h with
  | refl s => exact Window.refl s
  | step s s' s1 t c sts hnr hs hcont htr ih =>
    have hsub : ∀ σ ∈ sts, absGet σ.g k = some v := fun σ hσ => hall σ (List.mem_cons_of_mem _ hσ)
    exact Window.step s s' s1 t c hnr hs hcont (hsub s' htr.head_mem) (ih hsub)

/-- **a traversal misses no entry that stays put** (every schedule, any number of threads, any hash function and table
sizes; grow, shrink and `Clear` running concurrently; the visitor calling back into the map): if thread `u` is about to
load the table pointer in `Range` in `s0`, the call returns `π` in `s1`, the visitor never stops the traversal, and `(k, v)` is
bound in the current table in every state from `s0` to `s1`, then `(k, v)` is among the pairs handed to the visitor -/
theorem trav_complete (p : Params K) (hmin : 0 < p.minLen) (u : Tid) (s0 s1 : St K V) (sts : List (St K V))
    (π : List (K × V)) (h0 : Reach p s0) (hpc : (s0.l u).pc = .rgTable)
    (htr : Trav p u (s0.l u).frames.length s0 sts s1)
    (hret : (s1.l u).pc = .ret) (hdep : (s1.l u).frames.length = (s0.l u).frames.length)
    (hres : (s1.l u).result = some (.visits π)) :
    ∀ k v, (∀ σ ∈ sts, absGet σ.g k = some v) → (k, v) ∈ π := by
  intro k v hall
  obtain ⟨-, ⟨h, -⟩ | ⟨T, b, hw⟩⟩ := range_window hmin (htr.window k v hall) h0 ⟨hall s0 htr.head_mem, .inl ⟨hpc, rfl⟩⟩
  · rw [hret] at h; cases h
  · obtain ⟨f, hr, hm⟩ := hw.prog.ret hdep hret
    rw [hres] at hr
    cases hr
    exact hm

/-! ## the pairs handed over: no key twice -/

theorem visits_step (hs : tstep p t g l c = some (g', l')) {π : List (K × V)} (hπ : l'.result = some (.visits π)) :
    l.result = some (.visits π) ∨ (rgPc l.pc = true ∧ π <+: l.visited ++ l.snap) := by
  rcases call_step hs with ⟨op, -, rfl⟩ | ⟨op, -, rfl⟩ | ⟨-, -, rfl⟩ | ⟨f, fs, -, -, rfl⟩ | ⟨-, -, -, -, h⟩
  · rw [startOp_eq] at hπ; cases hπ
  · rw [startOp_eq] at hπ; cases hπ
  · exact .inl hπ
  · exact .inl hπ
  · exact (h π hπ).imp_right fun ⟨hpc, hpre⟩ => ⟨by rcases hpc with e | e <;> rw [e] <;> rfl, hpre⟩

def ResOK (l : L K V) : Prop := ∀ π, l.result = some (.visits π) → (AMap.keys π).Nodup

theorem resOK_step (hr : RD p g l) (ho : ResOK l) (hs : tstep p t g l c = some (g', l')) : ResOK l' := fun π hπ =>
  (visits_step hs hπ).elim (ho π) fun ⟨hrg, hpre⟩ =>
    (hr.1 (by simp [inRg, hrg])).1.1.sublist (hpre.sublist.map _)

/-- **at most once per key, for the list a `Range` call returns** -/
theorem result_nodup (p : Params K) (hmin : 0 < p.minLen) (s : St K V) (h : Reach p s) (u : Tid) (π : List (K × V))
    (hres : (s.l u).result = some (.visits π)) : (AMap.keys π).Nodup := by
  refine reach_induction (fun s => ∀ u, ResOK (s.l u)) (fun u π h => by cases h) ?_ h u π hres
  intro s t c s' hr ho hs u
  obtain ⟨g', l', hts, rfl⟩ := step_cases hs
  dsimp only
  split
  · exact resOK_step (rinv_reach hmin hr t) (ho t) hts
  · exact ho u

/-! ## the pairs handed over were bound in the map during the call (windows in which no `Clear` publishes) -/

def FrameAll (Φ : K × V → Prop) (T d : Nat) (l : L K V) : Prop :=
  if l.frames.length = d then
    (rgPc l.pc = true ∧ l.tbl = T ∧ ∀ e ∈ l.visited ++ l.snap, Φ e) ∨
    (l.pc = .ret ∧ ∀ π, l.result = some (.visits π) → ∀ e ∈ π, Φ e)
  else ∃ f, l.frames.reverse[d]? = some f ∧ f.tbl = T ∧ ∀ e ∈ f.visited ++ f.snap, Φ e

def AllIn (Φ : K × V → Prop) (_ : Pc) (f : Frame K V) : Prop := ∀ e ∈ f.visited ++ f.snap, Φ e

variable {Φ : K × V → Prop}

theorem FrameAll.trav (h : FrameAll Φ T d l) (hnr : ¬ (l.pc = .ret ∧ l.frames.length = d)) : TravInv T d (AllIn Φ) l := by
  unfold FrameAll at h
  split at h
  · rename_i hd
    obtain ⟨hrg, hT, hm⟩ := h.resolve_right fun h => hnr ⟨h.1, hd⟩
    exact .live hd hT hrg hm
  · obtain ⟨f, hf, hT, hm⟩ := h
    exact ⟨(.rgVisit, f), by rw [travAt, if_neg ‹_›, hf]; rfl, hT, hm, .inl rfl⟩

theorem TravInv.frameAll (h : TravInv T d (AllIn Φ) l) : FrameAll Φ T d l := by
  obtain ⟨x, hx, hT, hm, hr⟩ := h
  by_cases hd : l.frames.length = d
  · rw [travAt, if_pos hd] at hx
    cases hx
    rw [FrameAll, if_pos hd]
    exact hr.imp (fun hrg => ⟨hrg, hT, hm⟩) fun ⟨_, hpc, hres⟩ =>
      ⟨hpc, fun π hπ e he => hm e (List.mem_append_left _ (by rw [hres] at hπ; cases hπ; exact he))⟩
  · rw [travAt, if_neg hd] at hx
    obtain ⟨f, hf, rfl⟩ := Option.map_eq_some_iff.mp hx
    rw [FrameAll, if_neg hd]
    exact ⟨f, hf, hT, hm⟩

theorem AllIn.move {x y : Pc × Frame K V} (hm : Move p g c x y) (h : AllIn Φ x.1 x.2)
    (hcopy : ∀ e ∈ (g.tables x.2.tbl).data, Φ e) : AllIn Φ y.1 y.2 := by
  cases hm with
  | stay | lock | done | unlock | next => exact h
  | load f => exact fun e he => h e (List.mem_append_right _ he)
  | copy f =>
    exact fun e he => (List.mem_append.mp he).elim (fun he => h e (List.mem_append_left _ he))
      fun he => hcopy e (mem_bucketEntries.mp he).1
  | visit f e0 rest hsn => exact fun e he => h e (by simpa [hsn] using he)
  | stop f e0 rest hsn => exact fun e he => h e (by simp [hsn] at he ⊢; exact he.imp_right .inl)

def NoClearPublish (s : St K V) : Prop := ∀ w, s.g.resizer = some w → (s.l w).pc = .rzPublish → (s.l w).hint ≠ .clear

def Seen (seen : List (St K V)) (e : K × V) : Prop := ∃ σ ∈ seen, absGet σ.g e.1 = some e.2

structure RealW (p : Params K) (u : Tid) (T d : Nat) (seen : List (St K V)) (s : St K V) : Prop where
  tle : T ≤ s.g.cur
  nos : NoStraggler s T
  frozen : T ≠ s.g.cur → ∃ σ ∈ seen, ∀ k, absGet σ.g k = (s.g.tables T).data.get k
  fr : FrameAll (Seen seen) T d (s.l u)

def RealInv (p : Params K) (u : Tid) (d : Nat) (seen : List (St K V)) (s : St K V) : Prop :=
  ((s.l u).pc = .rgTable ∧ (s.l u).frames.length = d) ∨ ∃ T, RealW p u T d seen s

theorem real_step (hmin : 0 < p.minLen) {seen : List (St K V)} (hreach : Reach p s) (hseen : s ∈ seen)
    (hr : RealInv p u d seen s) (hnr : ¬ ((s.l u).pc = .ret ∧ (s.l u).frames.length = d))
    (hnc : NoClearPublish s) (hs : step p s t c = some s') : RealInv p u d seen s' := by
  have hi := inv_reach hreach
  obtain ⟨g', l', heq, rfl⟩ := step_cases hs
  rcases hr with ⟨hpc, hfl⟩ | ⟨T, hw⟩
  · by_cases htu : t = u
    · subst htu
      have hsn : (s.l t).snap = [] := (((rinv_reach hmin hreach t).1 (by rw [hpc]; rfl)).2 (.inl hpc)).1
      simp only [tstep, hpc, Option.some.injEq, Prod.mk.injEq] at heq
      obtain ⟨rfl, rfl⟩ := heq
      refine .inr ⟨s.g.cur, Nat.le_refl _, fun h => absurd rfl h, fun h => absurd rfl h, TravInv.frameAll ?_⟩
      dsimp only
      rw [if_pos rfl]
      exact .live hfl rfl rfl fun e he => by rw [regs, hsn] at he; cases he
    · refine .inl ?_
      dsimp only
      rw [if_neg (Ne.symm htu)]
      exact ⟨hpc, hfl⟩
  · obtain ⟨hns', hle, hdat⟩ := nos_step hmin hreach hs hw.tle hw.nos
      fun ⟨e, hh, _⟩ => hnc t ((hi.2 t).rsz.mpr (by rw [e]; rfl)) e hh
    -- generation `T` is current, or it is what the current table was in a state seen before
    obtain ⟨σ, hσ, hσT⟩ : ∃ σ ∈ seen, ∀ k, absGet σ.g k = (s.g.tables T).data.get k := by
      by_cases hTc : T = s.g.cur
      · exact ⟨s, hseen, fun k => by unfold absGet; rw [← hTc]⟩
      · exact hw.frozen hTc
    refine .inr ⟨T, hle, hns', fun hne => ⟨σ, hσ, by rw [hdat.resolve_right hne]; exact hσT⟩, ?_⟩
    dsimp only
    by_cases htu : t = u
    · subst htu
      rw [if_pos rfl]
      refine ((hw.fr.trav hnr).step heq hnr fun x y hm hT h => h.move hm fun e he => ⟨σ, hσ, ?_⟩).frameAll
      rw [hσT, ← hT]
      exact AMap.get_of_mem _ ((dinv_reach hmin hreach).gd.wf _) e.1 e.2 he
    · rw [if_neg (Ne.symm htu)]; exact hw.fr

theorem real_trav (hmin : 0 < p.minLen) (htr : Trav p u d s sts s1) (hncs : ∀ σ ∈ sts, NoClearPublish σ)
    {seen : List (St K V)} (hsub : ∀ σ ∈ sts, σ ∈ seen) (hreach : Reach p s) (hr : RealInv p u d seen s) :
    RealInv p u d seen s1 := by
  induction htr with
  | refl s => exact hr
  | step s s' s1 t c sts hnr hs hcont htr ih =>
    exact ih (fun σ hσ => hncs σ (List.mem_cons_of_mem _ hσ)) (fun σ hσ => hsub σ (List.mem_cons_of_mem _ hσ))
      (reach_step hreach hs) (real_step hmin hreach (hsub s List.mem_cons_self) hr hnr (hncs s List.mem_cons_self) hs)

/-- **only real entries, partial: windows in which no `Clear` publishes its empty table.**  Every pair a `Range` call
returns was bound to that key in the current table in one of the states the call went through.  (A `Clear` that
publishes during the call lets a writer that had already passed its checks commit into the retired generation; the
traversal may then hand over that pair, which the helping step of `Clear` linearizes *before* the `Clear`
(`ProtoLin`), but which the current table never held.) -/
theorem trav_real_partial (p : Params K) (hmin : 0 < p.minLen) (u : Tid) (s0 s1 : St K V) (sts : List (St K V))
    (π : List (K × V)) (h0 : Reach p s0) (hpc : (s0.l u).pc = .rgTable)
    (htr : Trav p u (s0.l u).frames.length s0 sts s1) (hncs : ∀ σ ∈ sts, NoClearPublish σ)
    (hret : (s1.l u).pc = .ret) (hdep : (s1.l u).frames.length = (s0.l u).frames.length)
    (hres : (s1.l u).result = some (.visits π)) :
    ∀ e ∈ π, ∃ σ ∈ sts, absGet σ.g e.1 = some e.2 := by
  rcases real_trav hmin htr hncs (fun _ h => h) h0 (.inl ⟨hpc, rfl⟩) with ⟨h, -⟩ | ⟨T, hw⟩
  · rw [hret] at h; cases h
  · have hf := hw.fr
    unfold FrameAll at hf
    rw [if_pos hdep] at hf
    rcases hf with ⟨h, -⟩ | ⟨-, h⟩
    · rw [hret] at h; cases h
    · exact h π hres

/-! ## no phantom: every pair handed over was stored by a writer (all schedules, `Clear` included) -/

def commitOf (l : L K V) : Option (K × V) :=
  if l.pc = .dcCommit then
    match opKey l, l.fnres with
    | some k, some (nv, false) => some (k, nv)
    | _, _ => none
  else none

def commits (p : Params K) : St K V → List (Tid × Choice K V) → List (K × V)
  | _, [] => []
  | s, (t, c) :: rest =>
    match Model.Proto.step p s t c with
    | some s' => (commitOf (s.l t)).toList ++ commits p s' rest
    | none => []

def LProv (Φ : K × V → Prop) (l : L K V) : Prop :=
  AllTrav (AllIn Φ) l ∧ ∀ π, l.result = some (.visits π) → ∀ e ∈ π, Φ e

theorem lprov_step (hs : tstep p t g l c = some (g', l')) (hl : LProv Φ l) (hb : ∀ T, ∀ e ∈ (g.tables T).data, Φ e) :
    LProv Φ l' :=
  ⟨hl.1.step hs (fun _ _ hm _ h => h.move hm (hb _)) fun _ => nofun, fun π hπ e he =>
    (visits_step hs hπ).elim (hl.2 π · e he) fun ⟨hrg, hpre⟩ => hl.1.1 (by simp [inRg, hrg]) e (hpre.subset he)⟩

def Prov (Φ : K × V → Prop) (s : St K V) : Prop :=
  (∀ T, ∀ e ∈ (s.g.tables T).data, Φ e) ∧ ∀ u, LProv Φ (s.l u)

theorem data_prov_step (hs : tstep p t g l c = some (g', l')) {e : K × V} (he : e ∈ (g'.tables T).data) :
    (∃ T0, e ∈ (g.tables T0).data) ∨ commitOf l = some e := by
  rcases step_teff hs with ⟨h, -⟩ | ⟨-, h1, -⟩ | ⟨len, -, -, -, hnew, hoth⟩ | ⟨h3, -, -, -, hoth⟩ | ⟨-, rfl⟩
  · rw [(h.2.2 T).2] at he; exact .inl ⟨_, he⟩
  · obtain ⟨k, nv, del, hk, hf, -, -, -, hcase⟩ := commit_shape h1 hs
    have hin : ∀ d, e ∈ ((setTbl g l.tbl { g.tables l.tbl with data := d }).tables T).data → e ∈ d ∨ ∃ T0, e ∈ (g.tables T0).data := by
      intro d he
      rw [setTbl_tables] at he
      split at he
      · exact .inl he
      · exact .inr ⟨_, he⟩
    have hset : del = false → e ∈ (g.tables l.tbl).data.set k nv ∨ (∃ T0, e ∈ (g.tables T0).data) →
        (∃ T0, e ∈ (g.tables T0).data) ∨ commitOf l = some e := fun hdel h =>
      h.elim (fun he => ((AMap.mem_set _ _ _ _).mp he).elim
        (fun h => .inr (by subst hdel; simp [commitOf, h1, hk, hf, h])) (fun h => .inl ⟨_, h.1⟩)) .inl
    rcases hcase with ⟨ov, -, -, -, rfl⟩ | ⟨ov, -, hdel, -, rfl⟩ | ⟨-, -, -, rfl⟩ | ⟨-, hdel, -, rfl⟩
    · exact .inl ((hin _ he).elim (fun h => ⟨_, ((AMap.mem_erase _ _ _).mp h).1⟩) id)
    · exact hset hdel (hin _ he)
    · exact .inl ⟨_, he⟩
    · exact hset hdel (hin _ he)
  · by_cases hT : T = g.ntables
    · subst hT; rw [hnew] at he; cases he
    · rw [hoth T hT] at he; exact .inl ⟨_, he⟩
  · by_cases hT : T = l.newT
    · obtain ⟨rfl, -⟩ := step_rzCopyDo h3 hs
      rw [hT, setTbl_tables, if_pos rfl] at he
      exact .inl ((mem_copyInto_sub he).elim (⟨_, ·⟩) fun h => ⟨_, (mem_bucketEntries.mp h).1⟩)
    · rw [hoth T hT] at he; exact .inl ⟨_, he⟩
  · exact .inl ⟨_, he⟩

theorem prov_step (hs : step p s t c = some s') (hΦ : ∀ e, commitOf (s.l t) = some e → Φ e) (hp : Prov Φ s) :
    Prov Φ s' := by
  obtain ⟨g', l', heq, rfl⟩ := step_cases hs
  refine ⟨fun T e he => (data_prov_step heq he).elim (fun ⟨T0, h⟩ => hp.1 T0 e h) (hΦ e), fun u => ?_⟩
  dsimp only
  split
  · exact lprov_step heq (hp.2 t) hp.1
  · exact hp.2 u

theorem prov_run : ∀ (sched : List (Tid × Choice K V)) (s : St K V), (∀ e ∈ commits p s sched, Φ e) → Prov Φ s →
    run p s sched = some s' → Prov Φ s'
  | [], s, _, hp, hrun => by cases hrun; exact hp
  | (t, c) :: rest, s, hΦ, hp, hrun => by
    obtain ⟨s1, hs, hrun⟩ := run_cons_some.mp hrun
    simp only [commits, hs, List.mem_append] at hΦ
    exact prov_run rest s1 (fun e he => hΦ e (.inr he)) (prov_step hs (fun e he => hΦ e (.inl (by simp [he]))) hp) hrun

/-- **no phantom** (every schedule, `Clear` included): every pair in the list a `Range` call returns, in a snapshot or in
any table generation was stored by the commit step of a writer - `Store`, `LoadOrStore`, `Compute`, … - earlier in
the run, under that very key -/
theorem range_no_phantom (p : Params K) (sched : List (Tid × Choice K V)) (s : St K V)
    (hrun : run p (init p) sched = some s) (u : Tid) (π : List (K × V))
    (hres : (s.l u).result = some (.visits π)) : ∀ e ∈ π, e ∈ commits p (init p) sched :=
  ((prov_run sched (init p) (fun _ h => h) ⟨nofun, fun _ => ⟨⟨nofun, nofun⟩, nofun⟩⟩ hrun).2 u).2 π hres

/-! ## an executable recogniser of windows (for concrete examples) -/

def travRun (p : Params K) (u : Tid) (d : Nat) : St K V → List (Tid × Choice K V) → Option (List (St K V) × St K V)
  | s, [] => some ([s], s)
  | s, (t, c) :: rest =>
    if (s.l u).pc = .ret ∧ (s.l u).frames.length = d then none
    else if t = u ∧ c.cont = false then none
    else match Model.Proto.step p s t c with
      | none => none
      | some s' =>
        match travRun p u d s' rest with
        | none => none
        | some (sts, s1) => some (s :: sts, s1)

theorem travRun_sound (p : Params K) (u : Tid) (d : Nat) (sched : List (Tid × Choice K V)) (s s1 : St K V)
    (sts : List (St K V)) (h : travRun p u d s sched = some (sts, s1)) : Trav p u d s sts s1 := by
  induction sched generalizing s sts with
  | nil => cases h; exact .refl _
  | cons a rest ih =>
    obtain ⟨t, c⟩ := a
    simp only [travRun] at h
    (repeat' split at h) <;> cases h
    rename_i hnr hc _ s' hs _ sts' hrec
    exact .step s s' s1 t c sts' hnr hs (fun htu => (Bool.eq_false_or_eq_true _).resolve_right fun hcc => hc ⟨htu, hcc⟩)
      (ih s' sts' hrec)

end Proofs.ProtoRange

namespace Proofs.ProtoData
open Spec Model.Proto

variable {K V : Type} [DecidableEq K]

theorem range_frames_nodup (p : Params K) (hmin : 0 < p.minLen) (s : St K V) (h : Reach p s) (u : Tid)
    (f : Frame K V) (hf : f ∈ (s.l u).frames) : (AMap.keys (f.visited ++ f.snap)).Nodup :=
  ((ProtoRange.rinv_reach hmin h u).2 f hf).1.1

end Proofs.ProtoData
