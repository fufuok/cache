import CacheVerif.Proofs.ConcCacheLin
import CacheVerif.Proofs.SimpSets
import CacheVerif.Proofs.DeepActions
/-!
# M5 run by one thread with a frozen clock is M2, step by step the actions of the call

A thread of M5 that runs a call alone, from `idle` to `ret`, with no clock advance and (for `DeleteExpired`) the
traversal handing it the entries of the map in order, ends in exactly the state, result and callback ledger of
the sequential model `Model.Cache.step` — which `Proofs/DeepCache.lean` proves equal to the interpreter run on the
method bodies printed from the working tree — and its steps stand, one each and in order, for `DeepActions.actions`,
the actions a tracing twin records on those bodies (`solo`; `solo_eq_m2` and `DeepTrace.solo_actions` are its two halves).  So the
*data* half of M5 (what each step computes and what the locals carry from step to step) is tied to the source text;
the *granularity* half (where a call may be interrupted) is tied by `Proofs/DeepTrace.lean` and the step-level trace
acceptance of the scheduler harness.

Three runners of the same run: `soloSteps` (where it ends) and `DeepTraceCommon.soloTrace` (the action `evOf` of each step)
are what the statements of `solo_eq_m2`, `DeepTrace`, `DeepTraceOf` and C02 are written with; `soloTr` computes both
at once (`soloTr_fst`, `soloTr_snd`), so that each call is run once (`solo`).  `evOf` and `soloTrace` are named after neither
file, being what the traces of the two source files are both compared with: hence their namespace `DeepTraceCommon`
in the middle of this file.
-/
set_option linter.unusedSectionVars false
namespace Proofs.ConcCacheSolo
open Spec Model Model.ConcCache Proofs.ConcCacheLin

variable {K V : Type} [DecidableEq K] [Inhabited V]

def soloSteps (g : G K V) (l : L K V) : List (Choice K V) → Option (G K V × L K V)
  | [] => some (g, l)
  | c :: cs =>
    match tstep 0 g l c with
    | some (g', l') => soloSteps g' l' cs
    | none => none

/-- what is compared with the sequential step: the M2 view of the globals, the callbacks the call fired, the thread's pc
and result -/
def obs (g0 : G K V) (r : Option (G K V × L K V)) : Option (CSt K V × List (Nat × K × V) × Pc × Option (Out K V)) :=
  r.map fun (g, l) => (view g, g.ledger.drop g0.ledger.length, l.pc, l.result)

def expect (g : G K V) (op : COp K V) : Option (CSt K V × List (Nat × K × V) × Pc × Option (Out K V)) :=
  let r := Cache.step (view g) (toSpec op)
  some (r.1, r.2.cbs, .ret, some r.2.out)

def start (op : COp K V) : Choice K V := { op := some op }

/-- each entry is handed to the visitor; an expired one takes one more step (its conditional delete) -/
def visitChoices (now : Int) : List (K × Item V) → List (Choice K V)
  | [] => []
  | (k, i) :: rest =>
    if Gen.item_expiredWithNow i.e now then { key := some k, seen := some i } :: {} :: visitChoices now rest
    else { key := some k, seen := some i } :: visitChoices now rest

end Proofs.ConcCacheSolo

namespace DeepTraceCommon
open Deep Model Spec Model.ConcCache Proofs.ConcCacheSolo DeepActions
variable {K V : Type} [DecidableEq K] [Inhabited V]

/-- the atomic action a step of M5 stands for (`[]`: no action of the code, a silent step of the model) -/
def evOf (l : L K V) (c : Choice K V) : List (Ev K V) :=
  match l.pc with
  | .idle | .ret => []
  | .setReadDflt => [.loadSetting "defaultExpiration"]
  | .setReadClock => if l.d > 0 then [.clock] else []
  | .setStore | .getLoad | .getCompute | .rmw | .gdCompute =>
    match opKey l with
    | some k => [match l.pc with | .setStore => .store k | .getLoad => .load k | _ => .compute k]
    | none => []
  | .getChkClock | .getTTLClock | .deReadClock => [.clock]
  | .gdReadCb | .deReadCb => [.loadSetting "evictedCallback"]
  | .gdFire =>
    match opKey l, l.removed, l.ec with
    | some k, some i, some cb => [.fire cb k i.v]
    | _, _, _ => []
  | .deVisit => match c.key with | some k => [.visit k] | none => []
  | .deCompute => match l.cur with | some (k, _) => [.compute k] | none => []
  | .deFire =>
    match l.queue, l.ec with
    | (k, v) :: _, some cb => [.fire cb k v]
    | _, _ => []
  | .clClear => [.clear]
  | .cntSize => [.size]
  | .sdStore => [.storeSetting "defaultExpiration"]
  | .scStore => [.storeSetting "evictedCallback"]

def soloTrace (g : G K V) (l : L K V) : List (Choice K V) → Option (List (Ev K V))
  | [] => some []
  | c :: cs =>
    match tstep 0 g l c with
    | some (g', l') => (soloTrace g' l' cs).map fun t => evOf l c ++ t
    | none => none

end DeepTraceCommon

namespace Proofs.ConcCacheSolo
open Deep Spec Model Model.ConcCache Proofs.ConcCacheLin DeepActions DeepTraceCommon

variable {K V : Type} [DecidableEq K] [Inhabited V]

/-- no step of M5 stands for a callback invoked under a bucket lock -/
theorem soloTrace_unlocked (cs : List (Choice K V)) (g : G K V) (l : L K V) (t : List (Ev K V))
    (h : soloTrace g l cs = some t) : Ev.calledLocked ∉ t := by
  induction cs generalizing g l t with
  | nil => simp [soloTrace] at h; subst h; simp
  | cons c cs ih =>
    simp only [soloTrace] at h
    cases hs : tstep 0 g l c with
    | none => simp [hs] at h
    | some r =>
      simp only [hs, Option.map_eq_some_iff] at h
      obtain ⟨t', ht', rfl⟩ := h
      have := ih r.1 r.2 t' ht'
      simp only [List.mem_append, not_or]
      refine ⟨?_, this⟩
      unfold evOf
      cases l.pc <;> simp <;> (try split) <;> simp

theorem isCall_toSpec (op : COp K V) : isCall (toSpec op) := by cases op <;> trivial

def soloTr (g : G K V) (l : L K V) : List (Choice K V) → Option ((G K V × L K V) × List (Ev K V))
  | [] => some ((g, l), [])
  | c :: cs =>
    match tstep 0 g l c with
    | some (g', l') => (soloTr g' l' cs).map fun r => (r.1, evOf l c ++ r.2)
    | none => none

theorem soloTr_fst (cs : List (Choice K V)) : ∀ (g : G K V) (l : L K V), (soloTr g l cs).map (·.1) = soloSteps g l cs := by
  induction cs with
  | nil => intro g l; rfl
  | cons c cs ih =>
    intro g l
    simp only [soloTr, soloSteps]
    cases tstep 0 g l c with
    | none => rfl
    | some r => obtain ⟨g', l'⟩ := r; dsimp only; rw [← ih g' l', Option.map_map]; rfl

theorem soloTr_snd (cs : List (Choice K V)) : ∀ (g : G K V) (l : L K V), (soloTr g l cs).map (·.2) = soloTrace g l cs := by
  induction cs with
  | nil => intro g l; rfl
  | cons c cs ih =>
    intro g l
    simp only [soloTr, soloTrace]
    cases tstep 0 g l c with
    | none => rfl
    | some r => obtain ⟨g', l'⟩ := r; dsimp only; rw [← ih g' l', Option.map_map, Option.map_map]; rfl

theorem soloTr_append (a b : List (Choice K V)) : ∀ (g : G K V) (l : L K V),
    soloTr g l (a ++ b) = (soloTr g l a).bind fun r => (soloTr r.1.1 r.1.2 b).map fun r' => (r'.1, r.2 ++ r'.2) := by
  induction a with
  | nil => intro g l; simp [soloTr]
  | cons c a ih =>
    intro g l
    simp only [List.cons_append, soloTr]
    cases tstep 0 g l c with
    | none => rfl
    | some r =>
      obtain ⟨g', l'⟩ := r
      dsimp only
      rw [ih g' l']
      cases soloTr g' l' a with
      | none => rfl
      | some x => simp [Option.map_map, Function.comp_def]

theorem solo_visits (snap : List (K × Item V)) (g : G K V) (l : L K V) (hpc : l.pc = .deVisit) (hcur : l.cur = none) :
    ∃ er, soloTr g l (visitChoices l.passNow snap) =
      some (({ g with items := (Cache.sweep l.passNow l.ec.isSome snap (g.items, l.queue)).1 },
            { l with pc := .deVisit, cur := none, queue := (Cache.sweep l.passNow l.ec.isSome snap (g.items, l.queue)).2,
                     erased := er }), visitEvs l.passNow snap) := by
  induction snap generalizing g l with
  | nil => exact ⟨l.erased, by simp [visitChoices, soloTr, Cache.sweep, visitEvs, ← hpc, ← hcur]⟩
  | cons p snap ih =>
    obtain ⟨k, i⟩ := p
    by_cases he : Gen.item_expiredWithNow i.e l.passNow
    · simp only [visitChoices, visitEvs, he, if_true, soloTr, tstep, hpc, evOf]
      have := ih { g with items := (g.items.compute k (Cache.sweepFn l.passNow)).1 }
        { l with pc := .deVisit, cur := none,
                 queue := l.queue ++ (match g.items.get k with
                   | some cur => if Gen.item_expiredWithNow cur.e l.passNow && l.ec.isSome then [(k, cur.v)] else []
                   | none => []),
                 erased := l.erased ++ (match g.items.get k with
                   | some cur => if Gen.item_expiredWithNow cur.e l.passNow then [(k, cur.v)] else []
                   | none => []) } rfl rfl
      obtain ⟨er, hr⟩ := this
      refine ⟨er, ?_⟩
      simp only [Cache.sweep, he, if_true]
      exact (congrArg (Option.map _) (congrArg (Option.map _) hr)).trans rfl
    · simp only [visitChoices, visitEvs, he, soloTr, tstep, hpc, evOf, Bool.false_eq_true, if_false]
      obtain ⟨er, hr⟩ := ih g l hpc hcur
      exact ⟨er, by simp [hr, Cache.sweep, he]⟩

/-- one step per queued entry, and the step that returns -/
theorem solo_fire (q : List (K × V)) (ec : Option Nat) (g : G K V) (l : L K V) (hpc : l.pc = .deFire) (hq : l.queue = q)
    (hec : l.ec = ec) (hnone : ec = none → q = []) :
    ∃ f, soloTr g l (List.replicate (q.length + 1) {}) =
      some (({ g with ledger := g.ledger ++ match ec with
                | some c => q.map fun p => (c, p.1, p.2)
                | none => [] },
            { l with pc := .ret, queue := [], result := some .unit, fired := f }),
        match ec with
        | some c => q.map fun p => .fire c p.1 p.2
        | none => []) := by
  induction q generalizing g l with
  | nil => exact ⟨l.fired, by cases ec <;> simp [List.replicate, soloTr, tstep, hpc, hq, hec, evOf]⟩
  | cons p q ih =>
    obtain ⟨k, v⟩ := p
    cases ec with
    | none => cases hnone rfl
    | some c =>
      obtain ⟨f, hf⟩ := ih { g with ledger := g.ledger ++ [(c, k, v)] }
        { l with pc := .deFire, ec := some c, queue := q, fired := l.fired ++ [(k, v)] } rfl rfl rfl nofun
      refine ⟨f, ?_⟩
      simp only [List.length_cons, List.replicate_succ (n := q.length + 1), soloTr, tstep, hpc, hq, hec, evOf]
      refine (congrArg (Option.map fun r => (r.1, [Ev.fire c k v] ++ r.2)) hf).trans ?_
      simp

def Solo (g : G K V) (op : COp K V) (cs : List (Choice K V)) : Prop :=
  (soloTr g L.init (start op :: cs)).map (fun r => (obs g (some r.1), r.2)) =
    some (expect g op, actions (view g) (toSpec op))

attribute [solo_eval] Solo soloTr evOf tstep startOp start L.init obs expect view toSpec opKey afterHit
  hitResult missResult linearize Cache.step Cache.get Cache.getAndDelete Cache.expired Cache.set
  Cache.expiration Gen.expiration AMap.load AMap.store AMap.compute AMap.size actions getEvs expEvs


theorem solo_rmw (g : G K V) {op : COp K V} (h : opCls op = .rmw) : Solo g op [{}] := by
  obtain ⟨e1, e2⟩ := rmw_frame (view g) h
  cases op <;> cases h <;>
    simp only [Solo, soloTr, evOf, tstep, start, startOp, L.init, obs, expect, linearize, Option.map, List.drop_length, e2,
      opKey, List.append_nil] <;>
    rw [e1] <;> rfl

theorem solo_deleteExpired (g : G K V) : ∃ cs, Solo g .deleteExpired cs := by
  obtain ⟨items, now, dflt, cb, ledger, abs⟩ := g
  let l0 : L K V := { (startOp L.init .deleteExpired) with pc := .deVisit, ec := cb, passNow := now, queue := [] }
  obtain ⟨er, hv⟩ := solo_visits items ⟨items, now, dflt, cb, ledger, abs⟩ l0 rfl rfl
  -- `deReadCb`, `deReadClock`; the traversal, handed the entries of the map in order (`solo_visits`, from `l0`); its end
  -- (`key := none`, to `deFire`); one `deFire` step per queued entry and the step that returns (`solo_fire`)
  refine ⟨{} :: {} :: (visitChoices now items ++
    ({ key := none } :: List.replicate ((Cache.sweep now cb.isSome items (items, [])).2.length + 1) ({} : Choice K V))), ?_⟩
  simp only [Solo, soloTr, tstep, start, startOp, L.init, evOf]
  rw [soloTr_append]
  simp only [l0, startOp, L.init] at hv
  rw [hv]
  simp only [Option.bind, soloTr, tstep, evOf]
  obtain ⟨f, hf⟩ := solo_fire (Cache.sweep now cb.isSome items (items, [])).2 cb
    ⟨(Cache.sweep now cb.isSome items (items, [])).1, now, dflt, cb, ledger, abs⟩
    { pc := .deFire, op := some .deleteExpired, d := 0, e := 0, loaded := none, passNow := now, ec := cb, cur := none,
      queue := (Cache.sweep now cb.isSome items (items, [])).2, removed := none, result := none, absAtLoad := none,
      nowAtLoad := 0, erased := er, fired := [] } rfl rfl rfl
    (fun h => by rw [h]; exact Proofs.Twin.sweep_noCb _ _ _)
  rw [hf]
  cases cb <;> simp [obs, expect, view, toSpec, Cache.step, actions]

/-- the choices after `start op`, one per step up to `ret`.  Only the traversal of `DeleteExpired` reads its choice;
everywhere else the choice is `{}`, and the list says how many steps the path takes: the pcs named at each branch -/
theorem solo (g : G K V) (op : COp K V) : ∃ cs, Solo g op cs := by
  cases op with
  | set k v d =>
    by_cases h1 : d = Gen.DefaultExpiration
    · exact ⟨[{}, {}, {}], by by_cases h3 : g.dflt > 0 <;> simp [solo_eval, *]⟩  -- setReadDflt, setReadClock, setStore
    · exact ⟨[{}, {}], by by_cases h2 : d > 0 <;> simp [solo_eval, *]⟩  -- setReadClock, setStore
  | get k | getWithExpiration k =>
    cases hg : g.items.get k with
    | none => exact ⟨[{}], by simp [solo_eval, *]⟩  -- getLoad misses
    | some i =>
      by_cases he : Gen.item_expired i.e g.now
      · exact ⟨[{}, {}, {}], by simp [solo_eval, *]⟩  -- getLoad, getChkClock, getCompute
      · exact ⟨[{}, {}], by by_cases hp : i.e > 0 <;> simp [solo_eval, *]⟩  -- getLoad, getChkClock
  | getWithTTL k =>
    cases hg : g.items.get k with
    | none => exact ⟨[{}], by simp [solo_eval, *]⟩  -- getLoad misses
    | some i =>
      by_cases he : Gen.item_expired i.e g.now
      · exact ⟨[{}, {}, {}], by simp [solo_eval, *]⟩  -- getLoad, getChkClock, getCompute
      · by_cases hp : i.e > 0
        · exact ⟨[{}, {}, {}], by simp [solo_eval, *]⟩  -- getLoad, getChkClock, getTTLClock
        · exact ⟨[{}, {}], by simp [solo_eval, *]⟩  -- getLoad, getChkClock
  | getOrSet k v d | getAndSet k v d | getAndRefresh k d | getOrCompute k f d | compute k f d =>
    exact ⟨[{}], solo_rmw g rfl⟩
  | getAndDelete k | delete k =>
    cases hg : g.items.get k with
    | none => exact ⟨[{}], by simp [solo_eval, *]⟩  -- gdCompute finds nothing
    | some i =>  -- gdCompute, gdReadCb, gdFire
      exact ⟨[{}, {}, {}], by cases hc : g.cb <;> by_cases he : Gen.item_expired i.e g.now <;> simp [solo_eval, *]⟩
  | deleteExpired => exact solo_deleteExpired g
  | clear | count | setDefaultExpiration d | setEvictedCallback c => exact ⟨[{}], by simp [solo_eval, *]⟩

/-- **every call of M5, run alone with the clock standing still, is the sequential step** -/
theorem solo_eq_m2 (g : G K V) (op : COp K V) :
    ∃ cs, obs g (soloSteps g L.init (start op :: cs)) = expect g op := by
  obtain ⟨cs, h⟩ := solo g op
  refine ⟨cs, ?_⟩
  rw [← soloTr_fst]
  unfold Solo at h
  cases hr : soloTr g L.init (start op :: cs) with
  | none => rw [hr] at h; cases h
  | some r => rw [hr] at h; exact congrArg Prod.fst (Option.some.inj h)

end Proofs.ConcCacheSolo
