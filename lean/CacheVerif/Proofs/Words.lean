import CacheVerif.Model.Words
import CacheVerif.Proofs.SlotScheme
import CacheVerif.Proofs.LeafBits
import CacheVerif.Proofs.Chains
/-!
# The word-filtered search of `MapOf` finds what the key search of M3 finds

For every chain of buckets whose `meta` words say what `RepB` demands - and for *any* hash byte function -
`Model.Words.searchChain` returns exactly `Model.Table.lookup` on the slots of the chain: a slot holding the key is always
among the marked bytes (`candidate_of_meta`), false positives of the SWAR trick are filtered by the key comparison, the
`markedw &= markedw - 1` iteration visits the marked slots in increasing order and ends (`scan_from`), bytes 5-7 of the
word are never looked at.  That a filter without false negatives only pre-selects (`firstMarked_lookup`) and the fold
along the chain (`searchWith_lookup`) serve the top-hash filter of `Map` as well.  `eq_mk5`, `scan_mk5` write the
iteration out for the 32 possible candidate words; nothing further on needs them.
-/
namespace Proofs.Words
open Model.Words Model.Table Proofs.LeafBits

variable {K V : Type} [DecidableEq K]

@[simp] theorem orE_none_left (b : Option V) : orE none b = b := rfl
@[simp] theorem orE_none_right (a : Option V) : orE a none = a := by cases a <;> rfl
theorem orE_eq_or (a b : Option V) : orE a b = a.or b := by cases a <;> rfl

/-! ### the slot test, and a search that looks only at marked slots -/

theorem testSlot_of_isSome (key : K) (es : Slots K V) (i : Nat) (h : (testSlot key es i).isSome = true) :
    i < es.length ∧ ∃ v, es.getD i none = some (key, v) := by
  unfold testSlot at h
  split at h
  · rename_i k v he
    split at h
    · rename_i hk
      refine ⟨?_, v, hk ▸ he⟩
      apply Classical.byContradiction
      intro hi
      rw [Proofs.SlotScheme.getD_of_le (by omega)] at he
      cases he
    · cases h
  · cases h

theorem testSlot_eq (key : K) (es : List (Option (K × V))) (i : Nat) :
    testSlot key es i = (match es[i]? with
      | some (some (k, v)) => if k = key then some v else none
      | _ => none) := by
  unfold testSlot
  rw [List.getD_eq_getElem?_getD]
  cases h : es[i]? with
  | none => simp
  | some e => cases e <;> simp

theorem lookup_drop (key : K) (es : Slots K V) (i : Nat) :
    lookup key (es.drop i) = orE (testSlot key es i) (lookup key (es.drop (i + 1))) := by
  rw [testSlot, List.getD_eq_getElem?_getD]
  by_cases hi : i < es.length
  · rw [List.drop_eq_getElem_cons hi, List.getElem?_eq_getElem hi]
    rcases es[i] with _ | ⟨k, v⟩
    · rfl
    · simp only [lookup, Option.getD_some]
      split <;> rfl
  · rw [List.drop_eq_nil_of_le (by omega), List.drop_eq_nil_of_le (by omega), List.getElem?_eq_none (by omega)]
    rfl

def firstMarked (test : Nat → Option V) (m : Nat → Bool) : Nat → Nat → Option V
  | 0, _ => none
  | d + 1, i => orE (if m i then test i else none) (firstMarked test m d (i + 1))

theorem ite_none_eq_of_isSome (c : Bool) (t : Option V) (h : t.isSome = true → c = true) : (if c then t else none) = t := by
  cases c
  · cases t
    · rfl
    · simp at h
  · rfl

/-- **a filter without false negatives only pre-selects**: comparing keys only in the marked slots finds what the key
search finds, whatever else is marked -/
theorem firstMarked_lookup (key : K) (es : Slots K V) (m : Nat → Bool)
    (hm : ∀ i, (testSlot key es i).isSome = true → m i = true) :
    ∀ d i, es.length ≤ i + d → firstMarked (testSlot key es) m d i = lookup key (es.drop i)
  | 0, i, h => by rw [List.drop_eq_nil_of_le (by omega)]; rfl
  | d + 1, i, h => by
    rw [firstMarked, ite_none_eq_of_isSome _ _ (hm i), firstMarked_lookup key es m hm d (i + 1) (by omega), ← lookup_drop]

theorem firstMarked_some_lt (m : Nat → Bool) : ∀ d i n, firstMarked some m d i = some n → n < i + d
  | 0, _, _, h => by cases h
  | d + 1, i, n, h => by
    rw [firstMarked] at h
    cases hm : m i
    · rw [hm] at h
      have := firstMarked_some_lt m d (i + 1) n h
      omega
    · rw [hm] at h
      cases h
      omega

def searchWith {B : Type} (sb : B → Option V) : List B → Option V
  | [] => none
  | b :: r => orE (sb b) (searchWith sb r)

theorem searchChain_with (key : K) (h2w : BitVec 64) (c : List (BucketOf K V)) :
    searchChain key h2w c = searchWith (searchBucket key h2w) c := by
  induction c with
  | nil => rfl
  | cons b r ih => rw [searchChain, searchWith, ih]

theorem searchChainM_with (key : K) (hash : BitVec 64) (c : List (BucketM K V)) :
    searchChainM key hash c = searchWith (searchBucketM key hash) c := by
  induction c with
  | nil => rfl
  | cons b r ih => rw [searchChainM, searchWith, ih]

theorem searchWith_lookup {B : Type} (key : K) (sb : B → Option V) (slots : B → Slots K V) (c : List B)
    (h : ∀ b ∈ c, sb b = lookup key (slots b)) : searchWith sb c = lookup key (c.flatMap slots) := by
  induction c with
  | nil => rfl
  | cons b r ih =>
    rw [searchWith, List.flatMap_cons, Proofs.Chains.lookup_append, ← orE_eq_or, h b (by simp),
      ih (fun x hx => h x (by simp [hx]))]

/-! ### the `markedw &= markedw - 1` iteration -/

/-- **the iteration visits the marked bytes in increasing order and ends**: if byte `i` is marked, bit `8 i + 7` is the
lowest set bit, so `firstMarkedByteIndex` is `i` and `w & (w - 1)` meets the hypothesis from `i + 1` -/
theorem scan_from (test : Nat → Option V) (m : Nat → Bool) (n : Nat) :
    ∀ (d i : Nat) (w : BitVec 64) (fuel : Nat), i + d = n → d < fuel →
      (∀ j, w.getLsbD j = true ↔ ∃ k, i ≤ k ∧ k < n ∧ m k = true ∧ j = 8 * k + 7) →
      scanMarked test fuel w = some (firstMarked test m d i) := by
  intro d
  induction d with
  | zero =>
    intro i w fuel hi hf hw
    obtain ⟨f, rfl⟩ : ∃ f, fuel = f + 1 := ⟨fuel - 1, by omega⟩
    have : w = 0#64 := by
      apply BitVec.eq_of_getLsbD_eq
      intro j _
      rw [BitVec.getLsbD_zero]
      apply Bool.eq_false_iff.2
      intro h
      obtain ⟨k, h1, h2, _⟩ := (hw j).1 h
      omega
    simp [scanMarked, firstMarked, this]
  | succ d ih =>
    intro i w fuel hi hf hw
    obtain ⟨f, rfl⟩ : ∃ f, fuel = f + 1 := ⟨fuel - 1, by omega⟩
    rw [firstMarked]
    cases hm : m i
    · refine (ih (i + 1) w (f + 1) (by omega) (by omega) fun j => (hw j).trans ⟨?_, ?_⟩).trans (by simp)
      · rintro ⟨k, h1, h2, h3, h4⟩
        have : k ≠ i := fun e => by rw [e, hm] at h3; cases h3
        exact ⟨k, by omega, h2, h3, h4⟩
      · rintro ⟨k, h1, h2, h3, h4⟩; exact ⟨k, by omega, h2, h3, h4⟩
    · have hb : w.getLsbD (8 * i + 7) = true := (hw _).2 ⟨i, Nat.le_refl i, by omega, hm, rfl⟩
      have hlow : ∀ j, j < 8 * i + 7 → w.getLsbD j = false := by
        intro j hj
        apply Bool.eq_false_iff.2
        intro h
        obtain ⟨k, h1, _, _, h4⟩ := (hw j).1 h
        omega
      have hz : w ≠ 0#64 := fun e => by rw [e, BitVec.getLsbD_zero] at hb; cases hb
      rw [scanMarked, if_neg hz, firstMarkedByteIndex_eq w i hb hlow]
      cases test i with
      | some v => rfl
      | none =>
        refine ih (i + 1) _ f (by omega) (by omega) fun j => ?_
        rw [and_sub_one_getLsbD, Bool.and_eq_true, decide_eq_true_eq, hw]
        constructor
        · rintro ⟨⟨k, h1, h2, h3, h4⟩, l, hl, hwl⟩
          obtain ⟨k', h1', _, _, h4'⟩ := (hw l).1 hwl
          exact ⟨k, by omega, h2, h3, h4⟩
        · rintro ⟨k, h1, h2, h3, h4⟩
          exact ⟨⟨k, by omega, h2, h3, h4⟩, 8 * i + 7, by omega, hb⟩

def Markers (n : Nat) (w : BitVec 64) : Prop := ∀ j, w.getLsbD j = true → j % 8 = 7 ∧ j < 8 * n

theorem Markers.and {n : Nat} {w : BitVec 64} (h : Markers n w) (x : BitVec 64) : Markers n (w &&& x) := by
  intro j hj
  rw [BitVec.getLsbD_and, Bool.and_eq_true] at hj
  exact h j hj.1

theorem scan_markers (test : Nat → Option V) (n : Nat) (w : BitVec 64) (hw : Markers n w) (fuel : Nat) (hf : n < fuel) :
    scanMarked test fuel w = some (firstMarked test (fun k => w.getLsbD (8 * k + 7)) n 0) := by
  refine scan_from test _ n n 0 w fuel (by omega) hf fun j => ⟨fun h => ?_, ?_⟩
  · have := hw j h
    exact ⟨j / 8, by omega, by omega, by rw [← h]; congr 1; omega, by omega⟩
  · rintro ⟨k, _, _, h, rfl⟩; exact h

/-! ### `MapOf`: the SWAR filter on the `meta` word -/

theorem candidates_bits (h2w m : BitVec 64) : Markers 5 (candidates h2w m) := by
  intro j h
  simp only [candidates, BitVec.getLsbD_and, Bool.and_eq_true, metaMask_getLsbD, decide_eq_true_eq] at h
  exact ⟨markZeroBytes_only_markers _ _ h.1, h.2⟩

/-- the model says `byteOf` (in `RepB`), the leaf lemmas say `getByte`: one function -/
theorem byteOf_eq_getByte : byteOf = getByte := rfl

theorem test_marked (hk : K → BitVec 8) (key : K) (b : BucketOf K V) (hrep : RepB hk b) (i : Nat)
    (h : (testSlot key b.entries i).isSome = true) :
    (candidates (Gen.broadcast (hk key)) b.metaw).getLsbD (8 * i + 7) = true := by
  obtain ⟨hi, v, he⟩ := testSlot_of_isSome key _ i h
  have hi : i < Gen.entriesPerMapOfBucket := hrep.1 ▸ hi
  have := hrep.2 i hi
  rw [he, byteOf_eq_getByte] at this
  exact candidate_of_meta b.metaw (hk key) i hi this

theorem scan_candidates (key : K) (h2w : BitVec 64) (b : BucketOf K V) (fuel : Nat) (hf : 8 ≤ fuel) :
    scanMarked (testSlot key b.entries) fuel (candidates h2w b.metaw) = some (searchBucket key h2w b) := by
  rw [searchBucket, scan_markers _ 5 _ (candidates_bits h2w b.metaw) 8 (by omega),
    scan_markers _ 5 _ (candidates_bits h2w b.metaw) fuel (by omega)]
  rfl

/-- **one bucket**: the SWAR-filtered search of the code finds exactly what the key search finds, whatever the hash
byte function, false positives included -/
theorem searchBucket_eq (hk : K → BitVec 8) (key : K) (b : BucketOf K V) (hrep : RepB hk b) :
    searchBucket key (Gen.broadcast (hk key)) b = lookup key b.entries := by
  rw [searchBucket, scan_markers _ 5 _ (candidates_bits _ b.metaw) 8 (by omega), Option.join_some]
  exact firstMarked_lookup key b.entries _ (test_marked hk key b hrep) 5 0 (Nat.le_of_eq hrep.1)

theorem searchChain_eq (hk : K → BitVec 8) (key : K) (c : List (BucketOf K V)) (hrep : ∀ b ∈ c, RepB hk b) :
    searchChain key (Gen.broadcast (hk key)) c = lookup key (flat c) := by
  rw [searchChain_with]
  exact searchWith_lookup key _ _ c fun b hb => searchBucket_eq hk key b (hrep b hb)

/-! ### the same iteration on the 32 words of marker bits of bytes 0-4, written out -/

def mk5 (b0 b1 b2 b3 b4 : Bool) : BitVec 64 :=
  (if b0 then 0x80#64 else 0#64) ||| (if b1 then 0x8000#64 else 0#64) ||| (if b2 then 0x800000#64 else 0#64) |||
  (if b3 then 0x80000000#64 else 0#64) ||| (if b4 then 0x8000000000#64 else 0#64)

theorem marker_getLsbD (b : Bool) (n : Nat) (hn : n < 64) (c : BitVec 64) (h : c = BitVec.twoPow 64 n) (j : Nat) :
    (if b then c else 0#64).getLsbD j = (b && decide (j = n)) := by
  subst h
  cases b
  · simp
  · simp only [if_true, BitVec.getLsbD_twoPow, Bool.true_and, hn, decide_true]
    exact decide_eq_decide.2 eq_comm

theorem mk5_getLsbD (b0 b1 b2 b3 b4 : Bool) (j : Nat) :
    (mk5 b0 b1 b2 b3 b4).getLsbD j =
      ((b0 && decide (j = 7)) || (b1 && decide (j = 15)) || (b2 && decide (j = 23)) ||
       (b3 && decide (j = 31)) || (b4 && decide (j = 39))) := by
  simp only [mk5, BitVec.getLsbD_or, marker_getLsbD _ 7 (by omega) 0x80#64 (by decide),
    marker_getLsbD _ 15 (by omega) 0x8000#64 (by decide), marker_getLsbD _ 23 (by omega) 0x800000#64 (by decide),
    marker_getLsbD _ 31 (by omega) 0x80000000#64 (by decide), marker_getLsbD _ 39 (by omega) 0x8000000000#64 (by decide)]

theorem eq_mk5 (w : BitVec 64) (h : ∀ j, w.getLsbD j = true → j % 8 = 7 ∧ j < 40) :
    w = mk5 (w.getLsbD 7) (w.getLsbD 15) (w.getLsbD 23) (w.getLsbD 31) (w.getLsbD 39) := by
  apply BitVec.eq_of_getLsbD_eq
  intro j hj
  rw [mk5_getLsbD]
  by_cases h7 : j = 7
  · subst h7; simp
  by_cases h15 : j = 15
  · subst h15; simp
  by_cases h23 : j = 23
  · subst h23; simp
  by_cases h31 : j = 31
  · subst h31; simp
  by_cases h39 : j = 39
  · subst h39; simp
  simp only [h7, h15, h23, h31, h39, decide_false, Bool.and_false, Bool.or_false]
  apply Bool.eq_false_iff.2
  intro hb
  have := h j hb
  omega

def first5 (r0 r1 r2 r3 r4 : Option V) : Option V := orE r0 (orE r1 (orE r2 (orE r3 r4)))

theorem scan_mk5 (test : Nat → Option V) (b0 b1 b2 b3 b4 : Bool) :
    scanMarked test 8 (mk5 b0 b1 b2 b3 b4) =
      some (first5 (if b0 then test 0 else none) (if b1 then test 1 else none) (if b2 then test 2 else none)
        (if b3 then test 3 else none) (if b4 then test 4 else none)) := by
  have hw : ∀ j, (mk5 b0 b1 b2 b3 b4).getLsbD j = true → j % 8 = 7 ∧ j < 8 * 5 := by
    intro j h
    simp only [mk5_getLsbD, Bool.or_eq_true, Bool.and_eq_true, decide_eq_true_eq] at h
    omega
  rw [scan_markers test 5 _ hw 8 (by omega)]
  simp only [firstMarked, mk5_getLsbD]
  simp [first5]

/-! ### `Map`: the top-hash filter -/

theorem testM_marked (hashOf : K → BitVec 64) (key : K) (b : BucketM K V) (hrep : RepM hashOf b) (i : Nat)
    (h : (testSlot key b.slots i).isSome = true) : Gen.topHashMatch (hashOf key) b.word i = true := by
  obtain ⟨hi, v, he⟩ := testSlot_of_isSome key _ i h
  have := hrep.2 i (hrep.1 ▸ hi)
  rw [he] at this
  exact this

theorem searchBucketM_marked (key : K) (hash : BitVec 64) (b : BucketM K V) :
    searchBucketM key hash b = firstMarked (testSlot key b.slots) (Gen.topHashMatch hash b.word) 3 0 := by
  simp only [firstMarked, searchBucketM, orE_none_right]

/-- **one bucket of `Map`**: filtering the three slots by `topHashMatch` and comparing keys only where it holds finds
what the key search finds (a slot holding the key always matches; other matches are rejected by `==` or by nil) -/
theorem searchBucketM_eq (hashOf : K → BitVec 64) (key : K) (b : BucketM K V) (hrep : RepM hashOf b) :
    searchBucketM key (hashOf key) b = lookup key b.slots := by
  rw [searchBucketM_marked]
  exact firstMarked_lookup key b.slots _ (testM_marked hashOf key b hrep) 3 0 (Nat.le_of_eq hrep.1)

theorem searchChainM_eq (hashOf : K → BitVec 64) (key : K) (c : List (BucketM K V)) (hrep : ∀ b ∈ c, RepM hashOf b) :
    searchChainM key (hashOf key) c = lookup key (flatM c) := by
  rw [searchChainM_with]
  exact searchWith_lookup key _ _ c fun b hb => searchBucketM_eq hashOf key b (hrep b hb)

end Proofs.Words
