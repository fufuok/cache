import CacheVerif.Proofs.ProtoData
import CacheVerif.Proofs.DoCompute
/-!
# M4a: linearization points of the writers, the helping step of `Clear`, hindsight for lookups

A writer takes effect at one step under its bucket lock (`LpStep`): on the current table that step is a step of the
builtin map (`specDc`, `lp_is_spec_step`); into a table that a `Clear` has retired meanwhile it is invisible, and the
writer counts as linearized immediately before that `Clear`.  What happens during a call is stated over the recorded steps
of a run (`events`, `hist_run`): the invariant of the retired table generations (`TabInv`), and along with it (`tab_run`)
the invariants of one lookup and of one writer.

The levels the section headers count:
* Level 1, the linearization step of a writer on the current table: `lp_is_spec_step`, `fastpath_hit`, `result_stable`.
* Level 2, the helping step of `Clear`: `commit_on_retired_invisible`, `helped_result`; in history form
  `retired_only_by_clear`.  Its state-level half is in this namespace at the end of `ProtoData.lean`, because `ProtoRange`
  uses it too: `past2`, `cur_step`, `past2_entry`, `retire_step_is_clear`, `data_key_step`, `helped_keys_distinct`,
  `locked_key_stable`, `straggler_step`.
* Level 3, hindsight for lookups across table generations: `load_hindsight`, `read_hindsight`, `fastpath_hindsight`.
* Level 4, every completed writer call has a linearization step inside its interval: `writer_linearizable`.
The last section: `Size()` is exact when no modifying call overlaps it (`size_call_exact`).
-/
set_option linter.unusedSectionVars false
namespace Proofs.ProtoLin
open Spec Model.Proto Proofs.ProtoLocks Proofs.ProtoData

variable {K V : Type} [DecidableEq K]
variable {p : Params K} {t : Tid} {g g' : G K V} {l l' : L K V} {c : Choice K V}

/-! ## the steps of a writer under its bucket lock -/

theorem fn_step (hpc : l.pc = .dcFn) (hs : tstep p t g l c = some (g', l')) :
    g' = g ∧ l'.pc = .dcCommit ∧ l'.old = l.old ∧ l'.tbl = l.tbl ∧ l'.op = l.op ∧
      ∀ k f lie co, l.op = some (.dc k f lie co) → l'.fnres = some (f l.old) := by
  simp only [tstep, hpc] at hs
  split at hs <;> simp only [Option.some.injEq, reduceCtorEq, Prod.mk.injEq] at hs
  obtain ⟨rfl, rfl⟩ := hs
  rename_i hop
  exact ⟨rfl, rfl, rfl, rfl, rfl, fun _ _ _ _ h => by rw [hop] at h; cases h; rfl⟩

theorem commit_step_spec {k : K} {f : Option V → V × Bool} {lie co : Bool}
    (hop : l.op = some (.dc k f lie co)) (hpc : l.pc = .dcCommit)
    (hfr : l.fnres = some (f l.old)) (hold : l.old = (g.tables l.tbl).data.get k) (hlie : lie = true → l.old = none)
    (hs : tstep p t g l c = some (g', l')) :
    (g'.tables l.tbl).data.get k = (specDc f lie co l.old).1 ∧
    l'.result = some (.val (specDc f lie co l.old).2.1 (specDc f lie co l.old).2.2) ∧
    l'.pc = .dcUnlock ∧ l'.op = l.op ∧ g'.cur = g.cur := by
  simp only [tstep, hpc, opKey, dcFlags, hop, hfr] at hs
  cases ho : l.old with
  | none =>
    rw [ho] at hs hold
    cases hd : (f none).2 <;>
      simp only [hd, if_true, Bool.false_eq_true, if_false, Option.some.injEq, Prod.mk.injEq] at hs <;>
      obtain ⟨rfl, rfl⟩ := hs <;> simp [specDc, hd, setTbl, AMap.get_set, ← hold, hop]
  | some o =>
    -- a `loadIfExists` call that found a binding has returned from the scan
    have hl : lie = false := by
      cases lie with
      | false => rfl
      | true => rw [hlie rfl] at ho; cases ho
    subst hl
    rw [ho] at hs hold
    cases hd : (f (some o)).2 <;>
      simp only [hd, if_true, Bool.false_eq_true, if_false, Option.some.injEq, Prod.mk.injEq] at hs <;>
      obtain ⟨rfl, rfl⟩ := hs <;> simp [specDc, hd, setTbl, AMap.get_set, AMap.get_erase, hop]

theorem scan_step {k : K} {f : Option V → V × Bool} {lie co : Bool}
    (hop : l.op = some (.dc k f lie co)) (hpc : l.pc = .dcScan)
    (hs : tstep p t g l c = some (g', l')) :
    g' = g ∧ l'.op = l.op ∧
    ((l'.pc = .dcUnlock ∧ lie = true ∧ ∃ x, (g.tables l.tbl).data.get k = some x ∧
        l'.result = some (.val (some x) (!co))) ∨ l'.pc = .dcFn ∨ l'.pc = .dcSum) := by
  simp only [tstep, hpc, opKey, dcFlags, hop] at hs
  (repeat' split at hs) <;> simp only [Option.some.injEq, Prod.mk.injEq] at hs <;>
    obtain ⟨rfl, rfl⟩ := hs <;> simp_all

theorem read_step {k : K} (hk : opKey l = some k) (hpc : l.pc = .ldRead) (hs : tstep p t g l c = some (g', l')) :
    (isDcOp l.op = false ∧ l'.pc = .ret ∧
        l'.result = some (.val ((g.tables l.tbl).data.get k) ((g.tables l.tbl).data.get k).isSome)) ∨
     (∃ k0 f lie co x, l.op = some (.dc k0 f lie co) ∧ (g.tables l.tbl).data.get k = some x ∧
        l'.result = some (.val (some x) (!co))) ∨
     (isDcOp l.op = true ∧ l'.pc = .dcLoadTable) := by
  simp only [tstep, hpc, hk] at hs
  rcases hop : l.op with _ | (_ | ⟨k0, f, lie, co⟩ | _ | _ | _) <;> simp only [hop] at hs
  case some.dc =>
    have hk0 : k0 = k := by simpa [opKey, hop] using hk
    subst hk0
    cases hget : (g.tables l.tbl).data.get k0 <;> simp only [hget, Option.some.injEq, Prod.mk.injEq] at hs <;>
      obtain ⟨rfl, rfl⟩ := hs <;> simp
  all_goals (simp only [Option.some.injEq, Prod.mk.injEq] at hs; obtain ⟨rfl, rfl⟩ := hs; simp)

def FR (l : L K V) : Prop :=
  l.pc = .dcCommit → ∀ k f lie co, l.op = some (.dc k f lie co) → l.fnres = some (f l.old)

theorem fr_reach {s : St K V} (h : Reach p s) (u : Tid) : FR (s.l u) := by
  refine local_reach FR (fun h => by cases h) ?_ h u
  intro t g l c g' l' _ hs hpc k f lie co hop
  have hfn : l.pc = .dcFn := by
    simpa using pc_entry (· == .dcCommit) (· == .dcFn) (by intro a; cases a <;> decide) hs (by simp [hpc])
  obtain ⟨-, -, e3, -, e5, e7⟩ := fn_step hfn hs
  rw [e3]; exact e7 k f lie co (e5 ▸ hop)

/-! ## Level 1: the linearization points of a writer -/

/-- the step at which a writer takes effect under its bucket lock: the commit, or the hit of a `loadIfExists` call in the
scan -/
def LpStep (l l' : L K V) : Prop := l.pc = .dcCommit ∨ (l.pc = .dcScan ∧ l'.pc = .dcUnlock)

theorem lp_op {l l' : L K V} (hw : WF l) (h : LpStep l l') : ∃ k f lie co, l.op = some (.dc k f lie co) :=
  hw.dc_op (by rcases h with e | ⟨e, -⟩ <;> rw [e] <;> rfl)

/-- **the linearization step, on any table generation** (current or retired), in terms of the binding `d` of the key in the
writer's table, whose bucket is locked -/
theorem lp_step (hmin : 0 < p.minLen) {s : St K V} (h : Reach p s) {t : Tid}
    {k : K} {f : Option V → V × Bool} {lie co : Bool} (hop : (s.l t).op = some (.dc k f lie co))
    {c : Choice K V} {g' : G K V} {l' : L K V} (hs : tstep p t s.g (s.l t) c = some (g', l')) (hlp : LpStep (s.l t) l')
    (d : Option V) (hd : (s.g.tables (s.l t).tbl).data.get k = d) :
    (g'.tables (s.l t).tbl).data.get k = (specDc f lie co d).1 ∧
    l'.result = some (.val (specDc f lie co d).2.1 (specDc f lie co d).2.2) ∧
    l'.pc = .dcUnlock ∧ l'.op = (s.l t).op ∧ g'.cur = s.g.cur ∧ ∀ k', k' ≠ k → absGet g' k' = absGet s.g k' := by
  subst hd
  rcases hlp with hpc | ⟨hpc, hhit⟩
  · have hold := ((dinv_reach hmin h).ld t).old (by rw [hpc]; rfl) k (opKey_of_dc hop)
    have hlie : lie = true → (s.l t).old = none := fun hl =>
      (wf_reach h t).lieold (Or.inr (Or.inr hpc)) (by simp [dcFlags, hop, hl])
    obtain ⟨e1, e2, e3, e4, e6⟩ := commit_step_spec hop hpc (fr_reach h t hpc k f lie co hop) hold hlie hs
    rw [hold] at e1 e2
    exact ⟨e1, e2, e3, e4, e6, fun k' hk' =>
      commit_changes_only_key hpc hs k' (by rw [opKey_of_dc hop, ne_eq, Option.some.injEq]; exact hk')⟩
  · obtain ⟨rfl, e2, hcase⟩ := scan_step hop hpc hs
    rcases hcase with ⟨-, rfl, x, hx, hr⟩ | e | e
    · rw [hx, hr]; exact ⟨rfl, rfl, hhit, e2, rfl, fun _ _ => rfl⟩
    all_goals rw [hhit] at e; cases e

/-- on the current table the linearization step is a step of the sequential specification -/
theorem lp_is_spec_step (hmin : 0 < p.minLen) {s : St K V} (h : Reach p s) {t : Tid}
    {k : K} {f : Option V → V × Bool} {lie co : Bool}
    (hop : (s.l t).op = some (.dc k f lie co)) (htbl : (s.l t).tbl = s.g.cur)
    {c : Choice K V} {g' : G K V} {l' : L K V} (hs : tstep p t s.g (s.l t) c = some (g', l')) (hlp : LpStep (s.l t) l') :
    absGet g' k = (specDc f lie co (absGet s.g k)).1 ∧
    l'.result = some (.val (specDc f lie co (absGet s.g k)).2.1 (specDc f lie co (absGet s.g k)).2.2) ∧
    ∀ k', k' ≠ k → absGet g' k' = absGet s.g k' := by
  obtain ⟨e1, e2, -, -, e5, e6⟩ := lp_step hmin h hop hs hlp (absGet s.g k) (by rw [htbl]; rfl)
  exact ⟨by rw [← e1, htbl, ← e5]; rfl, e2, e6⟩

/-- `lp_is_spec_step` at the commit, every argument explicit -/
theorem commit_is_spec_step (p : Params K) (hmin : 0 < p.minLen) (s : St K V) (h : Reach p s) (t : Tid)
    (k : K) (f : Option V → V × Bool) (lie co : Bool)
    (hop : (s.l t).op = some (.dc k f lie co)) (hpc : (s.l t).pc = .dcCommit) (htbl : (s.l t).tbl = s.g.cur)
    (c : Choice K V) (g' : G K V) (l' : L K V) (hs : tstep p t s.g (s.l t) c = some (g', l')) :
    absGet g' k = (specDc f lie co (absGet s.g k)).1 ∧
    l'.result = some (.val (specDc f lie co (absGet s.g k)).2.1 (specDc f lie co (absGet s.g k)).2.2) ∧
    ∀ k', k' ≠ k → absGet g' k' = absGet s.g k' :=
  lp_is_spec_step hmin h hop htbl hs (Or.inl hpc)

/-- the hit of the lock-free fast path returns `(some x, !computeOnly)`, the value/flag of `specDc f true co (some x)`, for
the binding `some x` of the key in the table generation the call loaded; that this was the abstract binding at some instant
inside the call is `read_hindsight` -/
theorem fastpath_hit {s : St K V} (h : Reach p s) {t : Tid}
    {k : K} {f : Option V → V × Bool} {lie co : Bool}
    (hop : (s.l t).op = some (.dc k f lie co)) (hpc : (s.l t).pc = .ldRead)
    {c : Choice K V} {g' : G K V} {l' : L K V} (hs : tstep p t s.g (s.l t) c = some (g', l'))
    (hhit : l'.pc = .ret) :
    lie = true ∧ ∃ x, (s.g.tables (s.l t).tbl).data.get k = some x ∧
      l'.result = some (.val (some x) (!co)) := by
  have hl : lie = true := by
    have := ((wf_reach h t).ldpre hpc (by rw [hop]; rfl)).2
    simpa [dcFlags, hop] using this
  rcases read_step (opKey_of_dc hop) hpc hs with ⟨h1, -⟩ | ⟨k0, f0, lie0, co0, x, h1, hx, hr⟩ | ⟨-, h1⟩
  · rw [hop] at h1; cases h1
  · exact ⟨hl, x, hx, by rw [hr, hop] at *; cases h1; rfl⟩
  · rw [hhit] at h1; cases h1

/-! ### the result is fixed at the linearization point -/

/-- the pcs between the linearization point of a writer and its return: unlock, counter update, the shrink attempt (a nested
`resize`, which may wait for another resize).  With `ret` of a `doCompute` call these are the pcs of `ProtoLocks.postDc`. -/
def fixedPc (l : L K V) : Prop :=
  l.pc = .dcUnlock ∨ l.pc = .dcAddSize ∨ l.pc = .dcMaybeShrink ∨ .dcDone ∈ l.conts

theorem fixedPc.of_dcDone (h : .dcDone ∈ l.conts) : fixedPc l := .inr (.inr (.inr h))

theorem fixedPc_cases (h : fixedPc l ∨ l.pc = .ret) :
    (l.pc = .dcUnlock ∨ l.pc = .dcAddSize ∨ l.pc = .dcMaybeShrink ∨ l.pc = .ret) ∨ .dcDone ∈ l.conts := by
  rcases h with (h | h | h | h) | h <;> simp [h]

theorem fixed_step (hw : WF l) (hf : fixedPc l) (hs : tstep p t g l c = some (g', l')) :
    l'.result = l.result ∧ l'.op = l.op ∧ (fixedPc l' ∨ l'.pc = .ret) := by
  rcases hf with hpc | hpc | hpc | hd
  · simp only [tstep, hpc, Option.some.injEq, Prod.mk.injEq] at hs
    obtain ⟨-, rfl⟩ := hs; exact ⟨rfl, rfl, Or.inl (Or.inr (Or.inl rfl))⟩
  · simp only [tstep, hpc, Option.some.injEq, Prod.mk.injEq] at hs
    obtain ⟨-, rfl⟩ := hs; exact ⟨rfl, rfl, Or.inl (Or.inr (Or.inr (Or.inl rfl)))⟩
  · simp only [tstep, hpc] at hs
    split at hs <;> simp only [Option.some.injEq, Prod.mk.injEq] at hs <;> obtain ⟨-, rfl⟩ := hs
    · exact ⟨rfl, rfl, Or.inl (.of_dcDone (by simp [callResize]))⟩
    · exact ⟨rfl, rfl, Or.inr rfl⟩
  · have hsub := sub_of_mem_conts hw hd
    have hc := (mem_conts_iff_caller hw hsub .dcDone (by simp)).mp hd
    rcases subcall_step hw hsub hs with hk | ⟨k, hk, -, rfl⟩
    · refine ⟨hk.result, hk.op, Or.inl (.of_dcDone ?_)⟩
      exact (mem_conts_iff_caller (wf_step hw hs) hk.sub .dcDone (by simp)).mpr (hk.callerEq.trans hc)
    · rw [hc] at hk; cases hk
      exact ⟨rfl, rfl, Or.inr rfl⟩

theorem ret_step (p : Params K) (t : Tid) (g : G K V) (l : L K V) (c : Choice K V) (g' : G K V) (l' : L K V)
    (hpc : l.pc = .ret) (hs : tstep p t g l c = some (g', l')) : l'.result = l.result ∧ g' = g := by
  simp only [tstep, hpc] at hs
  split at hs <;> simp only [Option.some.injEq, Prod.mk.injEq] at hs <;> obtain ⟨rfl, rfl⟩ := hs <;> exact ⟨rfl, rfl⟩

/-! ## history: the steps of a run, without changing the model -/

/-- one step of a run -/
structure Ev (K V : Type) where
  pre : St K V
  tid : Tid
  ch : Choice K V
  post : St K V

/-- the steps taken by `run p s sched`; a blocked step ends the list -/
def events (p : Params K) (s : St K V) : List (Tid × Choice K V) → List (Ev K V)
  | [] => []
  | (t, c) :: rest =>
    match step p s t c with
    | some s' => ⟨s, t, c, s'⟩ :: events p s' rest
    | none => []

def trace (p : Params K) (s : St K V) (sched : List (Tid × Choice K V)) : List (St K V) :=
  s :: (events p s sched).map (·.post)

def states (p : Params K) (sched : List (Tid × Choice K V)) : List (G K V) :=
  (trace (V := V) p (init p) sched).map (·.g)

theorem events_cons {s s1 : St K V} {t : Tid} {c : Choice K V} (rest : List (Tid × Choice K V))
    (h : step p s t c = some s1) : events p s ((t, c) :: rest) = ⟨s, t, c, s1⟩ :: events p s1 rest := by
  simp only [events, h]

/-- **induction over the history of a run, the rest of the run in view**: `J H R s` speaks of the steps `H` taken so far,
the steps `R` still to come and the current state -/
theorem hist_run_fut (J : List (Ev K V) → List (Ev K V) → St K V → Prop)
    (hstep : ∀ H R s t c s', Reach p s → J H (⟨s, t, c, s'⟩ :: R) s → step p s t c = some s' → J (H ++ [⟨s, t, c, s'⟩]) R s')
    {sched : List (Tid × Choice K V)} {s s' : St K V} (H F : List (Ev K V)) (hreach : Reach p s)
    (h : J H (events p s sched ++ F) s) (hr : run p s sched = some s') : J (H ++ events p s sched) F s' := by
  induction sched generalizing s H with
  | nil => cases hr; simpa [events] using h
  | cons a rest ih =>
    obtain ⟨t, c⟩ := a
    obtain ⟨s1, hs, hr⟩ := run_cons_some.mp hr
    rw [events_cons rest hs] at h ⊢
    rw [List.append_cons]
    exact ih (H ++ [⟨s, t, c, s1⟩]) (reach_step hreach hs) (hstep H _ s t c s1 hreach h hs) hr

theorem hist_run (J : List (Ev K V) → St K V → Prop)
    (hstep : ∀ H s t c s', Reach p s → J H s → step p s t c = some s' → J (H ++ [⟨s, t, c, s'⟩]) s')
    {sched : List (Tid × Choice K V)} {s s' : St K V} (H : List (Ev K V)) (hreach : Reach p s) (h : J H s)
    (hr : run p s sched = some s') : J (H ++ events p s sched) s' :=
  hist_run_fut (fun H _ s => J H s) (fun H _ s t c s' hr h hs => hstep H s t c s' hr h hs) H [] hreach h hr

theorem events_sound {sched : List (Tid × Choice K V)} {s s' : St K V} (hreach : Reach p s)
    (hr : run p s sched = some s') : ∀ e ∈ events p s sched, Reach p e.pre ∧ step p e.pre e.tid e.ch = some e.post := by
  refine hist_run (fun H _ => ∀ e ∈ H, Reach p e.pre ∧ step p e.pre e.tid e.ch = some e.post) ?_ [] hreach
    (fun _ he => by cases he) hr
  intro H s t c s1 hs hJ hst e he
  rcases List.mem_append.mp he with he | he
  · exact hJ e he
  · rw [List.mem_singleton.mp he]; exact ⟨hs, hst⟩

theorem events_sched {sched : List (Tid × Choice K V)} {s s' : St K V} (hr : run p s sched = some s') :
    (events p s sched).map (fun e => (e.tid, e.ch)) = sched := by
  induction sched generalizing s with
  | nil => rfl
  | cons a rest ih =>
    obtain ⟨t, c⟩ := a
    obtain ⟨s1, hs, hr⟩ := run_cons_some.mp hr
    rw [events_cons rest hs, List.map_cons, ih hr]

theorem events_length {sched : List (Tid × Choice K V)} {s s' : St K V}
    (hr : run p s sched = some s') : (events p s sched).length = sched.length := by
  simpa using congrArg List.length (events_sched hr)

theorem events_append {pre mid : List (Tid × Choice K V)} {s s0 : St K V} (h0 : run p s pre = some s0) :
    events p s (pre ++ mid) = events p s pre ++ events p s0 mid := by
  induction pre generalizing s with
  | nil => cases h0; rfl
  | cons a rest ih =>
    obtain ⟨t, c⟩ := a
    obtain ⟨s1, hs, hr⟩ := run_cons_some.mp h0
    rw [List.cons_append, events_cons _ hs, events_cons _ hs, ih hr, List.cons_append]

theorem trace_eq {sched : List (Tid × Choice K V)} {s s' : St K V} (hr : run p s sched = some s') :
    trace p s sched = (events p s sched).map (·.pre) ++ [s'] := by
  induction sched generalizing s with
  | nil => cases hr; rfl
  | cons a rest ih =>
    obtain ⟨t, c⟩ := a
    obtain ⟨s1, hs, hr⟩ := run_cons_some.mp hr
    rw [trace, events_cons rest hs, List.map_cons, List.map_cons, List.cons_append]
    exact congrArg _ (ih hr)

theorem trace_append_left {m1 m2 : List (Tid × Choice K V)} {s0 s1 x : St K V}
    (h1 : run p s0 m1 = some s1) (hx : x ∈ trace p s0 m1) : x ∈ trace p s0 (m1 ++ m2) := by
  unfold trace at hx ⊢
  rw [events_append h1, List.map_append]
  rcases List.mem_cons.mp hx with h | h
  · exact List.mem_cons.mpr (Or.inl h)
  · exact List.mem_cons.mpr (Or.inr (List.mem_append_left _ h))

theorem states_drop {pre : List (Tid × Choice K V)} (mid : List (Tid × Choice K V)) {s0 : St K V}
    (h0 : run p (init p) pre = some s0) :
    (states (V := V) p (pre ++ mid)).drop pre.length = (trace p s0 mid).map (·.g) := by
  have h : trace p (init p) (pre ++ mid) = (events p (init p) pre).map (·.pre) ++ trace p s0 mid := by
    rw [trace, events_append h0, List.map_append, ← List.cons_append, ← trace, trace_eq h0,
      List.append_assoc]
    rfl
  rw [states, ← List.map_drop, h, List.drop_left' (by rw [List.length_map, events_length h0])]

def NoRet (t : Tid) (H : List (Ev K V)) : Prop := ∀ e ∈ H, e.tid = t → (e.pre.l t).pc ≠ .ret

theorem noRet_snoc {t : Tid} {H : List (Ev K V)} {ev : Ev K V} (h : NoRet t (H ++ [ev])) :
    NoRet t H ∧ (ev.tid = t → (ev.pre.l t).pc ≠ .ret) :=
  ⟨fun e he => h e (List.mem_append_left _ he), h ev (by simp)⟩

/-- once the result of a writer is fixed (`fixedPc`), `result` does not change until the thread takes its return step, through
the unlock, the counter update and the shrink attempt with its nested `resize` / `waitForResize`: the value returned is the
value fixed at the linearization point -/
theorem result_stable (p : Params K) (s s' : St K V) (hreach : Reach p s) (t : Tid)
    (hf : fixedPc (s.l t) ∨ (s.l t).pc = .ret) (sched : List (Tid × Choice K V))
    (hr : run p s sched = some s') (hn : NoRet t (events p s sched)) :
    (fixedPc (s'.l t) ∨ (s'.l t).pc = .ret) ∧ (s'.l t).result = (s.l t).result ∧ (s'.l t).op = (s.l t).op := by
  have key := hist_run
    (fun H x => NoRet t H → (fixedPc (x.l t) ∨ (x.l t).pc = .ret) ∧ (x.l t).result = (s.l t).result ∧ (x.l t).op = (s.l t).op)
    ?_ [] hreach (fun _ => ⟨hf, rfl, rfl⟩) hr
  · exact key (by simpa using hn)
  · intro H x u c x' hx hJ hs hnr
    obtain ⟨hnH, hpc⟩ := noRet_snoc hnr
    obtain ⟨h1, h2, h3⟩ := hJ hnH
    obtain ⟨hts, hoth⟩ := step_def hs
    by_cases hu : u = t
    · subst hu
      obtain ⟨e1, e2, e3⟩ := fixed_step (wf_reach hx u) (h1.resolve_right (hpc rfl)) hts
      exact ⟨e3, e1.trans h2, e2.trans h3⟩
    · rw [hoth t (Ne.symm hu)]; exact ⟨h1, h2, h3⟩

/-! ## Level 2: the helping step of `Clear` -/

theorem commit_on_retired_invisible (hpc : l.pc = .dcCommit) (htbl : l.tbl ≠ g.cur)
    (hs : tstep p t g l c = some (g', l')) : ∀ k, absGet g' k = absGet g k := by
  obtain ⟨k0, nv, del, hk0, -⟩ := commit_shape hpc hs
  obtain ⟨hc, -, -, hoth, -, -⟩ := commit_frame hpc hs k0 hk0
  intro k; unfold absGet; rw [hc, hoth _ (Ne.symm htbl)]

/-- a writer at `dcFn` / `dcCommit` on any table generation: `old` is the binding of its key in its table, the abstract binding
while the table is current (so at a `Clear` publish the writer can be linearized immediately before the `Clear`); its commit
does to its own table, and returns, what `specDc f lie co old` says -/
theorem helped_result (p : Params K) (hmin : 0 < p.minLen) (s : St K V) (h : Reach p s) (u : Tid)
    (k : K) (f : Option V → V × Bool) (lie co : Bool) (hop : (s.l u).op = some (.dc k f lie co))
    (hpc : (s.l u).pc = .dcFn ∨ (s.l u).pc = .dcCommit) :
    (s.l u).old = (s.g.tables (s.l u).tbl).data.get k ∧
    ((s.l u).tbl = s.g.cur → (s.l u).old = absGet s.g k) ∧
    (∀ c g' l', tstep p u s.g (s.l u) c = some (g', l') →
      ((s.l u).pc = .dcFn → g' = s.g ∧ l'.pc = .dcCommit ∧ l'.old = (s.l u).old ∧ l'.tbl = (s.l u).tbl ∧
          l'.op = (s.l u).op) ∧
      ((s.l u).pc = .dcCommit →
        (g'.tables (s.l u).tbl).data.get k = (specDc f lie co (s.l u).old).1 ∧
        l'.result = some (.val (specDc f lie co (s.l u).old).2.1 (specDc f lie co (s.l u).old).2.2) ∧
        ((s.l u).tbl ≠ s.g.cur → ∀ k', absGet g' k' = absGet s.g k'))) := by
  have hold := ((dinv_reach hmin h).ld u).old (by rcases hpc with e | e <;> rw [e] <;> rfl) k (opKey_of_dc hop)
  refine ⟨hold, fun e => by rw [hold, e]; rfl, fun c g' l' hs => ⟨fun h1 => ?_, fun h1 => ?_⟩⟩
  · obtain ⟨e1, e2, e3, e4, e5, -⟩ := fn_step h1 hs
    exact ⟨e1, e2, e3, e4, e5⟩
  · obtain ⟨e1, e2, -⟩ := lp_step hmin h hop hs (Or.inl h1) _ hold.symm
    exact ⟨e1, e2, fun hne => commit_on_retired_invisible h1 hne hs⟩

/-! ## Level 3: hindsight for lookups across table generations (history invariants) -/

def WasCurH (H : List (Ev K V)) (T : Nat) : Prop := ∃ e ∈ H, e.pre.g.cur = T

def WasCur (H : List (Ev K V)) (s : St K V) (T : Nat) : Prop := T = s.g.cur ∨ WasCurH H T

/-- the recorded step `e` is the publish step of a `Clear` that helps `u`: in the state before it `u` is a writer
`doCompute k f lie co` past both its checks on the table being retired, and is linearized immediately before the `Clear` -/
def HelpAt (e : Ev K V) (u : Tid) (k : K) (f : Option V → V × Bool) (lie co : Bool) : Prop :=
  (e.pre.l e.tid).pc = .rzPublish ∧ (e.pre.l e.tid).hint = .clear ∧
  past2 (e.pre.l u).pc = true ∧ (e.pre.l u).tbl = e.pre.g.cur ∧ (e.pre.l u).op = some (.dc k f lie co)

/-- `v` is a legal answer of a lookup of `k` whose call covers the recorded steps `H` and the current state `s`: the abstract
binding of `k` in a visited state, or the binding installed by a writer helped by a recorded `Clear` (the abstract binding in
the virtual state between the linearization of that writer and the `Clear`) -/
def Wit (H : List (Ev K V)) (s : St K V) (k : K) (v : Option V) : Prop :=
  absGet s.g k = v ∨ (∃ e ∈ H, absGet e.pre.g k = v) ∨
  (∃ e ∈ H, ∃ u f lie co, HelpAt e u k f lie co ∧ v = (specDc f lie co (absGet e.pre.g k)).1)

theorem wit_mono {H : List (Ev K V)} {s' : St K V} {k : K} {v : Option V} {ev : Ev K V}
    (h : Wit H ev.pre k v) : Wit (H ++ [ev]) s' k v := by
  rcases h with h | ⟨e, he, h⟩ | ⟨e, he, h⟩
  · exact Or.inr (Or.inl ⟨ev, by simp, h⟩)
  · exact Or.inr (Or.inl ⟨e, List.mem_append_left _ he, h⟩)
  · exact Or.inr (Or.inr ⟨e, List.mem_append_left _ he, h⟩)

theorem wasCur_mono {H : List (Ev K V)} {s' : St K V} {T : Nat} {ev : Ev K V}
    (h : WasCur H ev.pre T) : WasCur (H ++ [ev]) s' T := by
  rcases h with h | ⟨e, he, h⟩
  · exact Or.inr ⟨ev, by simp, h.symm⟩
  · exact Or.inr ⟨e, List.mem_append_left _ he, h⟩

def CurMono (H : List (Ev K V)) (s : St K V) : Prop := ∀ e ∈ H, e.pre.g.cur ≤ s.g.cur

theorem curMono_step (hmin : 0 < p.minLen) {H : List (Ev K V)} {s s' : St K V} {t : Tid} {c : Choice K V}
    (hreach : Reach p s) (hJ : CurMono H s) (hs : step p s t c = some s') :
    CurMono (H ++ [⟨s, t, c, s'⟩]) s' := by
  have hcle := cur_le_step hmin hreach (step_def hs).1
  intro e he
  rcases List.mem_append.mp he with h | h
  · exact Nat.le_trans (hJ e h) hcle
  · rw [List.mem_singleton.mp h]; exact hcle

theorem wasCurH_step {H : List (Ev K V)} {ev : Ev K V} {s : St K V} (hpre : ev.pre = s) (hJ : CurMono H s) {T : Nat}
    (hw : WasCurH (H ++ [ev]) T) : T ≤ s.g.cur ∧ (T ≠ s.g.cur → WasCurH H T) := by
  obtain ⟨e, he, h⟩ := hw
  rcases List.mem_append.mp he with h' | h'
  · exact ⟨h ▸ hJ e h', fun _ => ⟨e, h', h⟩⟩
  · rw [List.mem_singleton.mp h', hpre] at h
    exact ⟨Nat.le_of_eq h.symm, fun hT => absurd h.symm hT⟩

theorem retired_binding_step (hmin : 0 < p.minLen) {H : List (Ev K V)} {s s' : St K V} {x : Tid}
    {c : Choice K V} (hreach : Reach p s) (hs : step p s x c = some s') (hmono : CurMono H s) {T : Nat}
    (hT : T ≠ s'.g.cur) (hw : WasCurH (H ++ [⟨s, x, c, s'⟩]) T) (k : K) :
    ((s'.g.tables T).data.get k = (s.g.tables T).data.get k ∧ WasCur H s T) ∨
    ((s.l x).pc = .dcCommit ∧ (s.l x).tbl = T ∧ opKey (s.l x) = some k ∧ T ≠ s.g.cur ∧ WasCurH H T) := by
  obtain ⟨hle, hwas⟩ := wasCurH_step rfl hmono hw
  rcases data_key_step hmin hreach (step_def hs).1 hle k with hsame | ⟨hpc, htbl, hkey, hcur⟩
  · exact Or.inl ⟨hsame, Classical.or_iff_not_imp_left.mpr hwas⟩
  · exact Or.inr ⟨hpc, htbl, hkey, hcur ▸ hT, hwas (hcur ▸ hT)⟩

/-- **the history invariant of the retired table generations**, for one key `k`.  For every table generation `T`
that was current at a recorded step and is retired now:
* `r1`: the binding of `k` in `T` is a legal answer (`Wit`);
* `r2`: every writer of `k` still past its checks on `T` was helped by the recorded `Clear` publish that retired
  `T`, and the binding of `k` in `T` is still the abstract binding at that publish (nobody else can touch it: the
  writer holds the bucket lock).  In particular `T` was not retired by a grow/shrink. -/
structure TabInv (k : K) (H : List (Ev K V)) (s : St K V) : Prop where
  mono : CurMono H s
  r1 : ∀ T, T ≠ s.g.cur → WasCurH H T → Wit H s k ((s.g.tables T).data.get k)
  r2 : ∀ u, past2 (s.l u).pc = true → (s.l u).tbl ≠ s.g.cur → WasCurH H (s.l u).tbl → opKey (s.l u) = some k →
    ∃ e ∈ H, ∃ f lie co, HelpAt e u k f lie co ∧ e.pre.g.cur = (s.l u).tbl ∧ (s.l u).op = some (.dc k f lie co) ∧
      (s.g.tables (s.l u).tbl).data.get k = absGet e.pre.g k

theorem tabinv_nil (k : K) (s : St K V) : TabInv k [] s :=
  ⟨fun e he => (by cases he), fun T _ hw => (by obtain ⟨e, he, -⟩ := hw; cases he),
   fun u _ _ hw => (by obtain ⟨e, he, -⟩ := hw; cases he)⟩

theorem read_wit {k : K} {H : List (Ev K V)} {s : St K V} (hJ : TabInv k H s) {T : Nat} (hw : WasCur H s T) :
    Wit H s k ((s.g.tables T).data.get k) := by
  by_cases hT : T = s.g.cur
  · subst hT; exact Or.inl rfl
  · exact hJ.r1 T hT (hw.resolve_left hT)

theorem tabinv_step (hmin : 0 < p.minLen) {k : K} {H : List (Ev K V)} {s s' : St K V} {t : Tid}
    {c : Choice K V} (hreach : Reach p s) (hJ : TabInv k H s) (hs : step p s t c = some s') :
    TabInv k (H ++ [⟨s, t, c, s'⟩]) s' := by
  refine ⟨curMono_step hmin hreach hJ.mono hs, fun T hT hw => ?_, fun u hu hne hw hkey => ?_⟩
  · rcases retired_binding_step hmin hreach hs hJ.mono hT hw k with ⟨hsame, hwc⟩ | ⟨hpc, htbl, hkey, hTc, hw'⟩
    · rw [hsame]; exact wit_mono (read_wit hJ hwc)
    · -- the commit of a writer on a retired generation: it was helped, and installs what `Wit` allows
      subst htbl
      obtain ⟨e, he, f, lie, co, hhelp, -, hop, hdata⟩ := hJ.r2 t (by rw [hpc]; rfl) hTc hw' hkey
      obtain ⟨e1, -⟩ := lp_step hmin hreach hop (step_def hs).1 (Or.inl hpc) _ hdata
      exact Or.inr (Or.inr ⟨e, List.mem_append_left _ he, t, f, lie, co, hhelp, e1⟩)
  · obtain ⟨e1, e2, hp2, -, hdat, hclr⟩ := straggler_step hmin hreach hs hu hne
    rw [opKey_eq, e2, ← opKey_eq] at hkey
    rw [e1] at hw
    rw [e1, e2, hdat k hkey]
    by_cases hTc : (s.l u).tbl = s.g.cur
    · obtain ⟨hpc, hh⟩ := hclr hTc
      -- retired by this step, the publish of a `Clear`, which helps `u`
      obtain ⟨f, lie, co, hop⟩ :=
        dc_op_of_key (wf_reach hreach u) (pastChk_inDc (past2_pastChk hp2)) hkey
      exact ⟨⟨s, t, c, s'⟩, by simp, f, lie, co, ⟨hpc, hh, hp2, hTc, hop⟩, hTc.symm, hop, by rw [hTc]; rfl⟩
    · obtain ⟨e, he, h⟩ := hJ.r2 u hp2 hTc ((wasCurH_step rfl hJ.mono hw).2 hTc) hkey
      exact ⟨e, List.mem_append_left _ he, h⟩

/-- a history invariant `X` whose step may use the invariant of the retired generations holds, with it, along a run -/
theorem tab_run (hmin : 0 < p.minLen) (k : K) (X : List (Ev K V) → St K V → Prop)
    (hX : ∀ H s x c s', Reach p s → TabInv k H s → X H s → step p s x c = some s' → X (H ++ [⟨s, x, c, s'⟩]) s')
    {mid : List (Tid × Choice K V)} {s0 s' : St K V} (hreach : Reach p s0) (h1 : run p s0 mid = some s') (h0 : X [] s0) :
    TabInv k (events p s0 mid) s' ∧ X (events p s0 mid) s' := by
  simpa using hist_run (fun H s => TabInv k H s ∧ X H s)
    (fun H s x c s2 hr hJ hs => ⟨tabinv_step hmin hr hJ.1 hs, hX H s x c s2 hr hJ.1 hJ.2 hs⟩)
    [] hreach ⟨tabinv_nil k s0, h0⟩ h1

def LoadPc (l : L K V) : Prop := ∀ k, l.op = some (.load k) → l.pc = .ldTable ∨ l.pc = .ldRead ∨ l.pc = .ret

theorem loadPc_step (h : LoadPc l) (hs : tstep p t g l c = some (g', l')) : LoadPc l' := by
  intro k hop
  rcases call_step hs with ⟨op, -, rfl⟩ | ⟨op, -, rfl⟩ | ⟨-, -, rfl⟩ | ⟨_, _, -, -, rfl⟩ | ⟨hr, e, -⟩
  case done | resume => cases hop
  case inside =>
    rw [e] at hop
    rcases h k hop with e1 | e1 | e1
    · have hsucc := pc_step hs
      rw [e1] at hsucc
      exact Or.inr (Or.inl (by simpa [succs] using hsucc))
    · obtain ⟨-, h1, -⟩ | ⟨_, _, _, _, _, h1, -⟩ | ⟨h1, -⟩ := read_step (opKey_of_load hop) e1 hs
      · exact Or.inr (Or.inr h1)
      all_goals rw [hop] at h1; cases h1
    · exact absurd e1 hr
  all_goals rw [startOp_op] at hop; cases hop; exact Or.inl rfl

theorem loadPc_reach {s : St K V} (h : Reach p s) (u : Tid) : LoadPc (s.l u) :=
  local_reach LoadPc (fun k hk => by cases hk) (fun _ _ _ _ _ _ h hs => loadPc_step h hs) h u

theorem load_ret_entry {s : St K V} (hreach : Reach p s) {t : Tid} {c : Choice K V} {g' : G K V} {l' : L K V}
    (hts : tstep p t s.g (s.l t) c = some (g', l')) (hpc : l'.pc = .ret) {k : K} (hop : l'.op = some (.load k))
    {v : Option V} {b : Bool} (hres : l'.result = some (.val v b)) :
    (s.l t).pc = .ldRead ∧ v = (s.g.tables (s.l t).tbl).data.get k ∧ b = v.isSome := by
  have ⟨h1, h2⟩ : (s.l t).pc = .ldRead ∧ (s.l t).op = some (.load k) := by
    have hsucc := pc_step hts
    rw [hpc] at hsucc
    rcases op_step hts with e | e | ⟨l0, op, rfl⟩
    · rw [e] at hop
      rcases loadPc_reach hreach t k hop with e1 | e1 | e1 <;> rw [e1] at hsucc
      · simp [succs] at hsucc
      · exact ⟨e1, hop⟩
      · simp [succs] at hsucc
    · rw [e] at hsucc; simp [succs] at hsucc
    · have := startOp_pc l0 op
      rw [hpc] at this; simp at this
  obtain ⟨-, -, hr⟩ | ⟨_, _, _, _, _, h3, -⟩ | ⟨h3, -⟩ := read_step (opKey_of_load h2) h1 hts
  · rw [hr] at hres
    simp only [Option.some.injEq, Ret.val.injEq] at hres
    obtain ⟨rfl, rfl⟩ := hres
    exact ⟨h1, rfl, rfl⟩
  all_goals rw [h2] at h3; cases h3

def RdCur (t : Tid) (H : List (Ev K V)) (s : St K V) : Prop := (s.l t).pc = .ldRead → WasCur H s (s.l t).tbl

theorem rdCur_step {t : Tid} {H : List (Ev K V)} {s s' : St K V} {x : Tid} {c : Choice K V}
    (hJ : RdCur t H s) (hs : step p s x c = some s') : RdCur t (H ++ [⟨s, x, c, s'⟩]) s' := by
  obtain ⟨hts, hoth⟩ := step_def hs
  intro hpc
  by_cases hx : t = x
  · subst hx
    obtain ⟨e1, e2⟩ := read_entry hts hpc
    exact Or.inl (by rw [e1, e2])
  · rw [hoth t hx] at hpc ⊢; exact wasCur_mono (hJ hpc)

/-- the history invariant of a lookup by thread `t`, for a notion `A H s v` of legal answer: `Wit` here, a binding after a
prefix of the log (`AtPrefix`) in `ProtoHW` -/
structure RdInv (A : List (Ev K V) → St K V → Option V → Prop) (k : K) (t : Tid) (H : List (Ev K V)) (s : St K V) :
    Prop where
  rd : RdCur t H s
  rt : (s.l t).pc = .ret → (s.l t).op = some (.load k) → ∀ v b, (s.l t).result = some (.val v b) →
    A H s v ∧ b = v.isSome

theorem rdinv_step {A A' : List (Ev K V) → St K V → Option V → Prop} {p : Params K} {k : K} {t : Tid}
    {H : List (Ev K V)} {s s' : St K V} {x : Tid} {c : Choice K V} (hreach : Reach p s) (hs : step p s x c = some s')
    (hmono : ∀ v, A H s v → A' (H ++ [⟨s, x, c, s'⟩]) s' v)
    (hread : ∀ T, WasCur H s T → A H s ((s.g.tables T).data.get k))
    (hJ : RdInv A k t H s) : RdInv A' k t (H ++ [⟨s, x, c, s'⟩]) s' := by
  obtain ⟨hts, hoth⟩ := step_def hs
  refine ⟨rdCur_step hJ.rd hs, fun hpc hop v b hres => ?_⟩
  by_cases hx : t = x
  · subst hx
    obtain ⟨h1, rfl, rfl⟩ := load_ret_entry hreach hts hpc hop hres
    exact ⟨hmono _ (hread _ (hJ.rd h1)), rfl⟩
  · rw [hoth t hx] at hpc hop hres
    exact (hJ.rt hpc hop v b hres).imp_left (hmono v)

theorem wit_run {mid : List (Tid × Choice K V)} {s0 s' : St K V} (h1 : run p s0 mid = some s')
    {k : K} {v : Option V} (h : Wit (events p s0 mid) s' k v) :
    (∃ x ∈ trace p s0 mid, absGet x.g k = v) ∨
    (∃ e ∈ events p s0 mid, ∃ u f lie co, HelpAt e u k f lie co ∧ v = (specDc f lie co (absGet e.pre.g k)).1) := by
  rw [trace_eq h1]
  rcases h with h | ⟨e, he, h⟩ | h
  · exact Or.inl ⟨s', by simp, h⟩
  · exact Or.inl ⟨e.pre, List.mem_append_left _ (List.mem_map_of_mem he), h⟩
  · exact Or.inr h

/-- **hindsight for `Load`, across table generations.**  Thread `t` is neither at the read pc nor at the return pc at the
end of `pre`, and about to return `v` from `Load k` at the end of `pre ++ mid`.  Then
* either `v` is the abstract binding of `k` in one of the states visited during `mid` (its start included),
* or `v` is the binding `(specDc f lie co (absGet g k)).1` installed by a writer `doCompute k f lie co` that was past
  its checks on the current table in the state `g` right before a `Clear` publish step taken during `mid`: the writer
  is linearized immediately before that `Clear`, and `v` is the abstract binding in the virtual state between the two,
  an instant inside the call. -/
theorem load_hindsight (p : Params K) (hmin : 0 < p.minLen) (pre mid : List (Tid × Choice K V)) (s0 s' : St K V)
    (h0 : run p (init p) pre = some s0) (h1 : run p s0 mid = some s') (t : Tid) (k : K) (v : Option V) (b : Bool)
    (hstart : (s0.l t).pc ≠ .ldRead ∧ (s0.l t).pc ≠ .ret)
    (hop : (s'.l t).op = some (.load k)) (hret : (s'.l t).pc = .ret) (hres : (s'.l t).result = some (.val v b)) :
    (∃ x ∈ trace p s0 mid, absGet x.g k = v) ∨
    (∃ e ∈ events p s0 mid, ∃ u f lie co, HelpAt e u k f lie co ∧ v = (specDc f lie co (absGet e.pre.g k)).1) := by
  obtain ⟨-, hR⟩ := tab_run hmin k (RdInv (fun H s v => Wit H s k v) k t)
    (fun _ _ _ _ _ hr hT hJ hs => rdinv_step hr hs (fun _ h => wit_mono h) (fun _ => read_wit hT) hJ) ⟨pre, h0⟩ h1
    ⟨fun h => absurd h hstart.1, fun h => absurd h hstart.2⟩
  exact wit_run h1 (hR.rt hret hop v b hres).1

/-- **hindsight for the lock-free read of any lookup** (`Load`, the fast path of LoadOrStore / LoadOrCompute): at the read
pc, the binding of the key in the table generation the thread loaded, which is what the read step returns (`read_step`,
`fastpath_hit`), is a legal answer in the sense of `load_hindsight` -/
theorem read_hindsight (p : Params K) (hmin : 0 < p.minLen) (pre mid : List (Tid × Choice K V)) (s0 s' : St K V)
    (h0 : run p (init p) pre = some s0) (h1 : run p s0 mid = some s') (t : Tid) (k : K)
    (hstart : (s0.l t).pc ≠ .ldRead) (hpc : (s'.l t).pc = .ldRead) :
    let v := (s'.g.tables (s'.l t).tbl).data.get k
    (∃ x ∈ trace p s0 mid, absGet x.g k = v) ∨
    (∃ e ∈ events p s0 mid, ∃ u f lie co, HelpAt e u k f lie co ∧ v = (specDc f lie co (absGet e.pre.g k)).1) := by
  obtain ⟨hT, hR⟩ := tab_run hmin k _ (fun _ _ _ _ _ _ _ hJ hs => rdCur_step hJ hs) ⟨pre, h0⟩ h1
    fun h => absurd h hstart
  exact wit_run h1 (read_wit hT (hR hpc))

/-- **`read_hindsight` for the fast-path hit of a writer**: the binding `some x` returned by the lock-free fast path of a
`loadIfExists` call (`fastpath_hit`) is a legal answer of a lookup whose call covers `mid` -/
theorem fastpath_hindsight (p : Params K) (hmin : 0 < p.minLen) (pre mid : List (Tid × Choice K V)) (s0 s' : St K V)
    (h0 : run p (init p) pre = some s0) (h1 : run p s0 mid = some s') (t : Tid)
    (k : K) (f : Option V → V × Bool) (lie co : Bool)
    (hstart : (s0.l t).pc ≠ .ldRead) (hop : (s'.l t).op = some (.dc k f lie co)) (hpc : (s'.l t).pc = .ldRead)
    (c : Choice K V) (g' : G K V) (l' : L K V) (hs : tstep p t s'.g (s'.l t) c = some (g', l')) (hhit : l'.pc = .ret) :
    ∃ x, l'.result = some (.val (some x) (!co)) ∧
      ((∃ st ∈ trace p s0 mid, absGet st.g k = some x) ∨
       (∃ e ∈ events p s0 mid, ∃ u f' lie' co', HelpAt e u k f' lie' co' ∧
          some x = (specDc f' lie' co' (absGet e.pre.g k)).1)) := by
  obtain ⟨-, x, hx, hr⟩ := fastpath_hit (reach_run ⟨pre, h0⟩ h1) hop hpc hs hhit
  have := read_hindsight p hmin pre mid s0 s' h0 h1 t k hstart hpc
  simp only [hx] at this
  exact ⟨x, hr, this⟩

/-! ## Level 2 in history form, and Level 4: every completed writer call has a linearization point -/

def PastInv (u : Tid) (H : List (Ev K V)) (s : St K V) : Prop :=
  past2 (s.l u).pc = true → WasCur H s (s.l u).tbl

theorem pastinv_step {u : Tid} {H : List (Ev K V)} {s s' : St K V} {x : Tid}
    {c : Choice K V} (hJ : PastInv u H s) (hs : step p s x c = some s') :
    PastInv u (H ++ [⟨s, x, c, s'⟩]) s' := by
  obtain ⟨hts, hoth⟩ := step_def hs
  intro hp
  by_cases hx : u = x
  · subst hx
    obtain ⟨e1, -, e4, hcase⟩ := past2_entry hts hp
    rcases hcase with ⟨h2, -⟩ | ⟨-, hc⟩
    · rw [e1]; exact wasCur_mono (hJ h2)
    · exact Or.inl (by rw [e1, e4, hc])
  · rw [hoth u hx] at hp ⊢
    exact wasCur_mono (hJ hp)

theorem past_helped {k : K} {u : Tid} {H : List (Ev K V)} {s : St K V} (hT : TabInv k H s) (hP : PastInv u H s)
    {f : Option V → V × Bool} {lie co : Bool} (hop : (s.l u).op = some (.dc k f lie co))
    (hpc : past2 (s.l u).pc = true) (hne : (s.l u).tbl ≠ s.g.cur) :
    ∃ e ∈ H, HelpAt e u k f lie co ∧ e.pre.g.cur = (s.l u).tbl ∧
      (s.g.tables (s.l u).tbl).data.get k = absGet e.pre.g k := by
  obtain ⟨e, he, f', lie', co', hh, hc, hop', hd⟩ :=
    hT.r2 u hpc hne ((hP hpc).resolve_left hne) (opKey_of_dc hop)
  rw [hop] at hop'; cases hop'
  exact ⟨e, he, hh, hc, hd⟩

/-- **Level 2 in history form**: a writer `u` of key `k` past both its checks on a table generation that is no longer
current was overtaken by the publish step of a `Clear`, never of a grow/shrink: that step `e` is in the history, `u` was
already past its checks on the then current table, and the binding of `k` in the retired table is still the abstract
binding right before that `Clear` -/
theorem retired_only_by_clear (p : Params K) (hmin : 0 < p.minLen) (sched : List (Tid × Choice K V)) (s : St K V)
    (hr : run p (init p) sched = some s) (u : Tid) (k : K) (f : Option V → V × Bool) (lie co : Bool)
    (hop : (s.l u).op = some (.dc k f lie co)) (hpc : past2 (s.l u).pc = true) (hne : (s.l u).tbl ≠ s.g.cur) :
    ∃ e ∈ events p (init p) sched, HelpAt e u k f lie co ∧ e.pre.g.cur = (s.l u).tbl ∧
      (s.g.tables (s.l u).tbl).data.get k = absGet e.pre.g k := by
  obtain ⟨hT, hP⟩ := tab_run hmin k _ (fun _ _ _ _ _ _ _ hJ hs => pastinv_step hJ hs) reach_init hr
    fun h => by simp [init, L.init, past2] at h
  exact past_helped hT hP hop hpc hne

/-- the pcs from which a step leads to a pc after the linearization point or to the return -/
def fixedSrc : Pc → Bool
  | .dcScan | .dcCommit | .dcUnlock | .dcAddSize | .dcMaybeShrink | .ldRead | .szSum | .rgLock | .rgVisit => true
  | pc => inRz pc || inWf pc

theorem fixed_entry (hw : WF l) (hs : tstep p t g l c = some (g', l')) (hf : fixedPc l' ∨ l'.pc = .ret)
    (hdc : isDcOp l'.op = true) :
    l'.op = l.op ∧ (fixedPc l ∨ LpStep l l' ∨ (l.pc = .ldRead ∧ l'.pc = .ret)) := by
  have hw' := wf_step hw hs
  by_cases hsub : inRz l.pc = true ∨ inWf l.pc = true
  · -- a step inside a sub-call, or the return from it: only the shrink attempt (`dcDone`) leads here
    rcases subcall_step hw hsub hs with hk | ⟨k, hk, hne, rfl⟩
    · refine ⟨hk.op, Or.inl (.of_dcDone ?_)⟩
      refine (mem_conts_iff_caller hw hsub .dcDone (by simp)).mpr
        (hk.callerEq ▸ (mem_conts_iff_caller hw' hk.sub .dcDone (by simp)).mp ?_)
      refine (fixedPc_cases hf).resolve_left fun h => ?_
      rcases h with h | h | h | h <;> rcases hk.sub with h' | h' <;> rw [h] at h' <;> cases h'
    · have hm := (mem_conts_iff_caller hw hsub k hne).mpr hk
      refine ⟨by cases k <;> rfl, Or.inl (.of_dcDone ?_)⟩
      cases k
      · simp [returnTo, fixedPc] at hf
      · exact hm
      · exact absurd rfl hne
      · rw [show (returnTo l .clDone).op = l.op from rfl, hw.cl hm] at hdc; cases hdc
  · have hc : l.conts = [] := by
      simp only [not_or, Bool.not_eq_true] at hsub
      exact hw.cshape.1 hsub.1 hsub.2
    by_cases hsub' : inRz l'.pc = true ∨ inWf l'.pc = true
    · -- entering a sub-call: only the shrink attempt has continuation `dcDone`
      rcases subcall_entry hsub hs hsub' with ⟨hpc, rfl⟩ | ⟨-, rfl⟩ | ⟨-, rfl⟩ | ⟨-, rfl⟩
      · exact ⟨rfl, Or.inl (Or.inr (Or.inr (Or.inl hpc)))⟩
      all_goals simp [fixedPc, callWait, callResize, hc] at hf
    · -- outside the sub-calls the stack is empty: `l'` is at one of four pcs, which the control-flow graph traces back
      simp only [not_or, Bool.not_eq_true] at hsub'
      have hP := (fixedPc_cases hf).resolve_right fun h => by rw [hw'.cshape.1 hsub'.1 hsub'.2] at h; cases h
      have hsucc := pc_step hs
      have hsrc := pc_entry (fun a => a == .dcUnlock || a == .dcAddSize || a == .dcMaybeShrink || a == .ret) fixedSrc
        (by intro a; cases a <;> decide) hs (by rcases hP with h | h | h | h <;> simp [h])
      -- the step neither starts nor ends a call
      have hop : l'.op = l.op := by
        rcases op_step hs with e | e | ⟨l0, op, rfl⟩
        · exact e
        · rw [e] at hsrc; cases hsrc
        · rcases startOp_pc l0 op with h | h | h | h | h | h <;> rw [h] at hP <;> simp at hP
      refine ⟨hop, ?_⟩
      have hnd : nonDcPc l.pc = false := by
        cases h : nonDcPc l.pc
        · rfl
        · rw [hop, hw.nodc h] at hdc; cases hdc
      cases hpc : l.pc <;> simp [hpc, fixedSrc, inRz, inWf, nonDcPc] at hsrc hsub hnd <;> rw [hpc] at hsucc <;>
        simp only [succs, List.mem_cons, List.not_mem_nil, or_false] at hsucc
      case dcUnlock => exact Or.inl (Or.inl hpc)
      case dcAddSize => exact Or.inl (Or.inr (Or.inl hpc))
      case dcMaybeShrink => exact Or.inl (Or.inr (Or.inr (Or.inl hpc)))
      case dcCommit => exact Or.inr (Or.inl (Or.inl hpc))
      case dcScan =>
        refine Or.inr (Or.inl (Or.inr ⟨hpc, ?_⟩))
        rcases hsucc with h | h | h
        · exact h
        all_goals rw [h] at hP; simp at hP
      case ldRead =>
        refine Or.inr (Or.inr ⟨rfl, ?_⟩)
        rcases hsucc with h | h
        · exact h
        · rw [h] at hP; simp at hP

/-- **the linearization point of a writer call** `doCompute k f lie co` of thread `t` that returns `(a, b)`, among the
recorded steps `H`; in the first two cases `(a, b)` is the value/flag of `specDc f lie co v` for the abstract binding `v` of
`k` before the step:
* its own step under the bucket lock (`LpStep`) on the then current table; or
* the publish step of a `Clear` taken while `t` was past its checks on the then current table (`HelpAt`): `t` is
  linearized immediately before the `Clear` (its later commit goes to the retired table); or
* (`loadIfExists` calls only) the lock-free fast path hit on a binding `some x` that is a legal answer of a lookup
  (`Wit`): the call is a pure lookup, `specDc f true co (some x) = (some x, some x, !co)` -/
def LinW (H : List (Ev K V)) (s : St K V) (t : Tid) (k : K) (f : Option V → V × Bool) (lie co : Bool)
    (a : Option V) (b : Bool) : Prop :=
  (∃ e ∈ H, e.tid = t ∧ LpStep (e.pre.l t) (e.post.l t) ∧
      (e.pre.l t).tbl = e.pre.g.cur ∧ (e.pre.l t).op = some (.dc k f lie co) ∧
      a = (specDc f lie co (absGet e.pre.g k)).2.1 ∧ b = (specDc f lie co (absGet e.pre.g k)).2.2) ∨
  (∃ e ∈ H, HelpAt e t k f lie co ∧
      a = (specDc f lie co (absGet e.pre.g k)).2.1 ∧ b = (specDc f lie co (absGet e.pre.g k)).2.2) ∨
  (lie = true ∧ ∃ x, a = some x ∧ b = (!co) ∧ Wit H s k (some x))

theorem linw_mono {H : List (Ev K V)} {s' : St K V} {t : Tid} {k : K} {f : Option V → V × Bool} {lie co : Bool}
    {a : Option V} {b : Bool} {ev : Ev K V} (h : LinW H ev.pre t k f lie co a b) :
    LinW (H ++ [ev]) s' t k f lie co a b := by
  rcases h with ⟨e, he, h⟩ | ⟨e, he, h⟩ | ⟨hl, x, ha, hb, hw⟩
  · exact Or.inl ⟨e, List.mem_append_left _ he, h⟩
  · exact Or.inr (Or.inl ⟨e, List.mem_append_left _ he, h⟩)
  · exact Or.inr (Or.inr ⟨hl, x, ha, hb, wit_mono hw⟩)

structure WrInv (k : K) (t : Tid) (H : List (Ev K V)) (s : St K V) : Prop where
  rd : RdCur t H s
  pst : PastInv t H s
  fx : (fixedPc (s.l t) ∨ (s.l t).pc = .ret) → ∀ f lie co, (s.l t).op = some (.dc k f lie co) →
    ∀ a b, (s.l t).result = some (.val a b) → LinW H s t k f lie co a b

theorem wrinv_step (hmin : 0 < p.minLen) {k : K} {t : Tid} {H : List (Ev K V)} {s s' : St K V} {x : Tid}
    {c : Choice K V} (hreach : Reach p s) (hT : TabInv k H s) (hJ : WrInv k t H s)
    (hs : step p s x c = some s') : WrInv k t (H ++ [⟨s, x, c, s'⟩]) s' := by
  obtain ⟨hts, hoth⟩ := step_def hs
  refine ⟨rdCur_step hJ.rd hs, pastinv_step hJ.pst hs, ?_⟩
  intro hf f lie co hop a b hres
  by_cases hx : t = x
  · subst hx
    obtain ⟨eop, h | h | ⟨h, h'⟩⟩ := fixed_entry (wf_reach hreach t) hts hf (by rw [hop]; rfl)
    · obtain ⟨e1, -⟩ := fixed_step (wf_reach hreach t) h hts
      exact linw_mono
        (hJ.fx (Or.inl h) f lie co (by rw [← eop]; exact hop) a b (by rw [← e1]; exact hres))
    · -- the step takes effect under the lock: on the current table it is the linearization point itself, on a retired
      -- one the linearization point was the `Clear` that helped
      rw [eop] at hop
      have hp2 : past2 (s.l t).pc = true := by rcases h with h | ⟨h, -⟩ <;> rw [h] <;> rfl
      by_cases htbl : (s.l t).tbl = s.g.cur
      · obtain ⟨-, e2, -⟩ := lp_step hmin hreach hop hts h (absGet s.g k) (by rw [htbl]; rfl)
        rw [e2] at hres
        simp only [Option.some.injEq, Ret.val.injEq] at hres
        exact Or.inl ⟨⟨s, t, c, s'⟩, by simp, rfl, h, htbl, hop, hres.1.symm, hres.2.symm⟩
      · obtain ⟨e, he, hh, -, hd⟩ := past_helped hT hJ.pst hop hp2 htbl
        obtain ⟨-, e2, -⟩ := lp_step hmin hreach hop hts h _ hd
        rw [e2] at hres
        simp only [Option.some.injEq, Ret.val.injEq] at hres
        exact Or.inr (Or.inl ⟨e, List.mem_append_left _ he, hh, hres.1.symm, hres.2.symm⟩)
    · rw [eop] at hop
      obtain ⟨hl, y, hy, hr⟩ := fastpath_hit hreach hop h hts h'
      rw [hr] at hres
      simp only [Option.some.injEq, Ret.val.injEq] at hres
      have hwit := read_wit hT (hJ.rd h)
      rw [hy] at hwit
      exact Or.inr (Or.inr ⟨hl, y, hres.1.symm, hres.2.symm, wit_mono hwit⟩)
  · rw [hoth t hx] at hf hop hres
    exact linw_mono (hJ.fx hf f lie co hop a b hres)

/-- **Level 4: every completed writer call is linearizable at a step inside the call.**  Thread `t` is at the first pc of
a `doCompute` call at the end of `pre`, and about to return `(a, b)` from `doCompute k f lie co` at the end of
`pre ++ mid`.  Then one of the steps `e` taken during `mid` is its linearization point (`LinW`):
1. *own step, table current*: `e` is `t`'s commit, or the hit of `loadIfExists` in the scan under the lock, on the table
   that is current at that instant; the abstract binding of `k` goes from `v := absGet e.pre.g k` to
   `(specDc f lie co v).1`, no other key changes, and `(a, b)` is the value/flag of `specDc f lie co v`;
2. *helped*: `e` is the publish step of a `Clear` by another thread, taken while `t` was past both its checks on the
   then current table; after `e` the abstract content is empty; `(a, b)` is the value/flag of `specDc f lie co v` for
   `v := absGet e.pre.g k` (the commit of `t` comes later and is invisible: `commit_on_retired_invisible`);
3. *lock-free fast path* (`loadIfExists` calls only): the call is a pure lookup returning `(some x, !co)`, where
   `some x` is a legal answer of a lookup in the sense of `load_hindsight`. -/
theorem writer_linearizable (p : Params K) (hmin : 0 < p.minLen) (pre mid : List (Tid × Choice K V)) (s0 s' : St K V)
    (h0 : run p (init p) pre = some s0) (h1 : run p s0 mid = some s') (t : Tid)
    (k : K) (f : Option V → V × Bool) (lie co : Bool) (a : Option V) (b : Bool)
    (hstart : (s0.l t).pc = .dcFast ∨ (s0.l t).pc = .dcLoadTable)
    (hop : (s'.l t).op = some (.dc k f lie co)) (hret : (s'.l t).pc = .ret)
    (hres : (s'.l t).result = some (.val a b)) :
    (∃ e ∈ events p s0 mid, e.tid = t ∧ ((e.pre.l t).pc = .dcCommit ∨ (e.pre.l t).pc = .dcScan) ∧
        (e.pre.l t).tbl = e.pre.g.cur ∧ (e.pre.l t).op = some (.dc k f lie co) ∧
        absGet e.post.g k = (specDc f lie co (absGet e.pre.g k)).1 ∧
        (∀ k', k' ≠ k → absGet e.post.g k' = absGet e.pre.g k') ∧
        a = (specDc f lie co (absGet e.pre.g k)).2.1 ∧ b = (specDc f lie co (absGet e.pre.g k)).2.2) ∨
    (∃ e ∈ events p s0 mid, e.tid ≠ t ∧ HelpAt e t k f lie co ∧ (∀ k', absGet e.post.g k' = none) ∧
        a = (specDc f lie co (absGet e.pre.g k)).2.1 ∧ b = (specDc f lie co (absGet e.pre.g k)).2.2) ∨
    (lie = true ∧ ∃ x, a = some x ∧ b = (!co) ∧
      ((∃ st ∈ trace p s0 mid, absGet st.g k = some x) ∨
       (∃ e ∈ events p s0 mid, ∃ u f' lie' co', HelpAt e u k f' lie' co' ∧
          some x = (specDc f' lie' co' (absGet e.pre.g k)).1))) := by
  have hreach : Reach p s0 := ⟨pre, h0⟩
  -- the call starts outside the sub-calls, before the read pc, its checks and its linearization point
  have hW0 : WrInv k t [] s0 := by
    have hc := (wf_reach hreach t).cshape
    refine ⟨fun h => ?_, fun h => ?_, fun h => ?_⟩
    · rcases hstart with e | e <;> rw [e] at h <;> cases h
    · rcases hstart with e | e <;> rw [e] at h <;> cases h
    · rcases hstart with e | e <;> simp [fixedPc, e, hc.1 (by rw [e]; rfl) (by rw [e]; rfl)] at h
  obtain ⟨-, hW⟩ := tab_run hmin k _ (fun _ _ _ _ _ => wrinv_step hmin) hreach h1 hW0
  rcases hW.fx (Or.inr hret) f lie co hop a b hres with
    ⟨e, he, htid, hlp, htbl, hope, ha, hb⟩ | ⟨e, he, hh, ha, hb⟩ | ⟨hl, x, ha, hb, hw⟩
  · obtain ⟨hr, hst⟩ := events_sound hreach h1 e he
    rw [htid] at hst
    obtain ⟨e1, -, e3⟩ := lp_is_spec_step hmin hr hope htbl (step_def hst).1 hlp
    exact Or.inl ⟨e, he, htid, hlp.imp_right And.left, htbl, hope, e1, e3, ha, hb⟩
  · obtain ⟨hr, hst⟩ := events_sound hreach h1 e he
    have hne : e.tid ≠ t := by
      intro e'; have := hh.2.2.1; rw [← e', hh.1] at this; cases this
    exact Or.inr (Or.inl ⟨e, he, hne, hh, clear_publish_empties p hmin e.pre hr e.tid e.ch _ _ hh.1 hh.2.1 (step_def hst).1, ha, hb⟩)
  · exact Or.inr (Or.inr ⟨hl, x, ha, hb, wit_run h1 hw⟩)

/-! ## the `Size()` call is exact when it does not overlap a modifying call -/

/-- **`Size()` is exact when no modifying call overlaps it.**  Thread `t` is at the first pc of `Size` in the reachable
state `s0`; no writer is between its commit and its counter update on the current table in `s0` (`hq`); during `mid`
thread `t` does not return (`NoRet`: it is still the same call at the end) and every step of another thread is taken
at a read-only pc (`roPc`: starting a call, `Load`, the lock-free fast path, `Size`, returning).  If `t` is about to
return at the end of `mid`, the value it returns, the stripes summed one atomic load at a time, is the number of
entries of the table.  (`hst`: every table has at least one counter stripe.) -/
theorem size_call_exact (p : Params K) (hmin : 0 < p.minLen) (hst : ∀ n, 0 < p.stripes n) (s0 s' : St K V)
    (h : Reach p s0) (t : Tid) (hpc : (s0.l t).pc = .szTable)
    (hq : ∀ u, pendingOn (s0.l u) s0.g.cur = false)
    (mid : List (Tid × Choice K V)) (hr : run p s0 mid = some s')
    (hn : NoRet t (events p s0 mid))
    (hro : ∀ e ∈ events p s0 mid, e.tid ≠ t → roPc (e.pre.l e.tid).pc = true)
    (hret : (s'.l t).pc = .ret) :
    (s'.l t).result = some (.size ((s0.g.tables s0.g.cur).data.length)) := by
  have key := hist_run
    (fun H x => NoRet t H → (∀ e ∈ H, e.tid ≠ t → roPc (e.pre.l e.tid).pc = true) →
      x.g = s0.g ∧ SzL s0.g.cur (s0.g.tables s0.g.cur).ctr (p.stripes (s0.g.tables s0.g.cur).len) (x.l t))
    ?_ [] h (fun _ _ => ⟨rfl, Or.inl hpc⟩) hr
  · obtain ⟨-, hL⟩ := key (by simpa using hn) (by simpa using hro)
    rcases hL with e | ⟨e, -⟩ | ⟨-, e⟩
    · rw [hret] at e; cases e
    · rw [hret] at e; cases e
    · rw [e, ← total_eq, total_exact_no_pending p hmin hst s0 h hq]
  · intro H x u c x' hx hJ hs hnr hro'
    obtain ⟨hnH, hpcr⟩ := noRet_snoc hnr
    obtain ⟨hg, hL⟩ := hJ hnH (fun e he => hro' e (List.mem_append_left _ he))
    obtain ⟨hts, hoth⟩ := step_def hs
    by_cases hu : u = t
    · subst hu
      obtain ⟨e1, e2⟩ := szL_step (hst _) (by rw [hg]) (by rw [hg]) (by rw [hg])
        hL (hpcr rfl) hts
      exact ⟨by rw [e1, hg], e2⟩
    · have e1 := ro_step_g (hro' ⟨x, u, c, x'⟩ (by simp) hu) hts
      rw [hoth t (Ne.symm hu)]; exact ⟨by rw [e1, hg], hL⟩

/-- `size_call_exact` with the hypothesis on the start state spelled out by pcs: every other thread is at a read-only pc
(idle, in a `Load` / `Size`, returning), hence has no pending counter delta -/
theorem size_call_exact_ro (p : Params K) (hmin : 0 < p.minLen) (hst : ∀ n, 0 < p.stripes n) (s0 s' : St K V)
    (h : Reach p s0) (t : Tid) (hpc : (s0.l t).pc = .szTable)
    (hq : ∀ u, u ≠ t → roPc (s0.l u).pc = true)
    (mid : List (Tid × Choice K V)) (hr : run p s0 mid = some s')
    (hn : NoRet t (events p s0 mid))
    (hro : ∀ e ∈ events p s0 mid, e.tid ≠ t → roPc (e.pre.l e.tid).pc = true)
    (hret : (s'.l t).pc = .ret) :
    (s'.l t).result = some (.size ((s0.g.tables s0.g.cur).data.length)) := by
  refine size_call_exact p hmin hst s0 s' h t hpc (fun u => ?_) mid hr hn hro hret
  by_cases hu : u = t
  · subst hu; exact ro_not_pending (by rw [hpc]; rfl)
  · exact ro_not_pending (hq u hu)

end Proofs.ProtoLin
