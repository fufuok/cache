import CacheVerif.Generated.Leaf
import CacheVerif.Spec.TTL
/-!
The machine-translated decision code of package `cache` (`Gen.*`, translated from the current source on every run, so
these are re-proved on every run): the generated predicates are the spec's, and what `configDefault` normalises.
`DefaultExpiration_eq`, `not_expired_zero`, `configDefault_none` and `configDefault_idem` have no user: they are for
whoever reads the Go source beside the model.
-/
namespace Proofs.LeafCache
open Spec.TTL

theorem DefaultExpiration_eq : Gen.DefaultExpiration = DefaultExpiration := rfl
theorem NoExpiration_eq : Gen.NoExpiration = NoExpiration := rfl

theorem item_expired_eq (e now : Int) : Gen.item_expired e now = expired e now := by
  simp [Gen.item_expired, expired]

theorem item_expiredWithNow_eq (e now : Int) : Gen.item_expiredWithNow e now = expired e now := by
  simp [Gen.item_expiredWithNow, expired]

theorem itemOf_expired_eq (e now : Int) : Gen.itemOf_expired e now = expired e now := by
  simp [Gen.itemOf_expired, expired]

theorem itemOf_expiredWithNow_eq (e now : Int) : Gen.itemOf_expiredWithNow e now = expired e now := by
  simp [Gen.itemOf_expiredWithNow, expired]

theorem expiration_eq (d dflt now : Int) : Gen.expiration d dflt now = expiration d dflt now := by
  simp only [Gen.expiration, expiration, Gen.DefaultExpiration, DefaultExpiration]
  by_cases h : d = -1000000000 <;> simp [h]

theorem expirationOf_eq (d dflt now : Int) : Gen.expirationOf d dflt now = expiration d dflt now := by
  simp only [Gen.expirationOf, expiration, Gen.DefaultExpiration, DefaultExpiration]
  by_cases h : d = -1000000000 <;> simp [h]

theorem expiration_nonneg (d dflt now : Int) (h : 0 ≤ now) : 0 ≤ expiration d dflt now := by
  simp only [expiration]
  split <;> omega

theorem expired_expiration (d dflt now : Int) : expired (expiration d dflt now) now = false := by
  simp only [expired, expiration]
  split <;> simp <;> omega

theorem expired_mono (e now now' : Int) (h : now ≤ now') (he : expired e now = true) : expired e now' = true := by
  simp [expired] at *; omega

theorem not_expired_zero (now : Int) : expired 0 now = false := by simp [expired]

theorem configDefault_spec (c : Gen.Config) :
    Gen.configDefault (some c) =
      { defaultExpiration := if c.defaultExpiration < 1 then NoExpiration else c.defaultExpiration,
        cleanupInterval := if c.cleanupInterval < 0 then 0 else c.cleanupInterval,
        minCapacity := if c.minCapacity < 96 then 96 else c.minCapacity,
        hasCallback := c.hasCallback } := by
  simp [Gen.configDefault, Gen.NoExpiration, NoExpiration, Gen.DefaultMinCapacity]
  by_cases h : c.minCapacity < 96 <;> simp [h]

theorem configDefaultOf_eq (c : Option Gen.Config) : Gen.configDefaultOf c = Gen.configDefault c := by
  cases c <;> rfl

theorem configDefault_none :
    Gen.configDefault none = { defaultExpiration := NoExpiration, cleanupInterval := 10000000000, minCapacity := 96, hasCallback := false } := rfl

theorem configDefault_idem (c : Option Gen.Config) :
    Gen.configDefault (some (Gen.configDefault c)) = Gen.configDefault c := by
  cases c with
  | none => rfl
  | some c =>
    rw [configDefault_spec, configDefault_spec]
    simp only [NoExpiration]
    congr 1 <;> (split <;> simp_all <;> omega)

end Proofs.LeafCache
