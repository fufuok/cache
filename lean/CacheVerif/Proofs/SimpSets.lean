import Lean.Meta.Tactic.Simp.RegisterCommand
/-! Simp sets of the proof files.  A list of definitions that many goals unfold is registered once instead of being
elaborated again in every goal (each mention of a definition by cases on the pc brings its fifty equations with it). -/
-- ProtoLocks: the pc classifiers that guard the clauses of `WF` / of `LI`, and what is left of a guard once they are evaluated
register_simp_attr wf_eval
register_simp_attr li_eval
-- ConcCacheSolo: what running a call of M5 alone unfolds
register_simp_attr solo_eval
