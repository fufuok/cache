import CacheVerif.Proofs.Runs
/-!
# M4b: what the two slot-level developments (`SlotMap`, `SlotMapOf`) share

Both models keep their slots in lists read with a default (`List.getD`), define the content of a key as the first
match over the slot grid, let a writer step store to one slot at a time, and run a reader alone by iterating its step
function.  What can be said of these over plain functions is stated here once.

Each model then has its own types (`G`, `St`, `Act`, `RL`) and step functions, so what is said of a run or of a reader
is written out once per model, under the same names (`run_invariant`, `Looking`, `reader_hindsight`, `RdInv`, `mu`,
`solo_reader`, …): the same text up to the names of the invariants, except where it follows the reader's pcs, which
differ.  The writer side differs in more than names:

| `Map` (`SlotMapRep`, `SlotMapReader`, `SlotMapHindsight`) | `MapOf` (`SlotMapOfBasic`, `SlotMapOfInv`, `SlotMapOfHindsight`) |
|---|---|
| `RI`; its `uniq : uniqHolder` unfolds to `∀ k, Uniq fun b i => slotHolds … k` | `Inv`; its `uniq` gives the same through `Inv.uniqKey` |
| `SlotUpd` and `HeapMono` | `Delta` |
| `WR` (one constructor per micro-step) | `WCase` (one structure per micro-step) |
| `wstep_WR`, `ri_WR`, `ri_run` | `wstep_case`, `inv_WCase`, `inv_reachable` |
-/
namespace Proofs.SlotScheme

/-! ## `List.getD` and list positions -/
section getD
variable {α : Type} {l : List α} {d : α} {i : Nat}

theorem lt_of_getElem? {a : α} (h : l[i]? = some a) : i < l.length :=
  let ⟨hi, _⟩ := List.getElem?_eq_some_iff.1 h; hi

theorem getD_of_le (h : l.length ≤ i) : l.getD i d = d := by
  rw [List.getD_eq_getElem?_getD, List.getElem?_eq_none h]; rfl

variable (d) in
theorem getD_mem (h : i < l.length) : l.getD i d ∈ l := by
  rw [List.getD_eq_getElem?_getD, List.getElem?_eq_getElem h]; exact List.getElem_mem h

theorem getD_modify (f : α → α) (i j : Nat) :
    (l.modify i f).getD j d = if i = j ∧ j < l.length then f (l.getD j d) else l.getD j d := by
  rw [List.getD_eq_getElem?_getD, List.getD_eq_getElem?_getD, List.getElem?_modify]
  by_cases hj : j < l.length
  · rw [List.getElem?_eq_getElem hj]
    by_cases h : i = j <;> simp [h, hj]
  · rw [List.getElem?_eq_none (by omega)]
    simp [hj]

theorem getD_set (i j : Nat) (a : α) : (l.set i a).getD j d = if i = j ∧ j < l.length then a else l.getD j d := by
  rw [List.getD_eq_getElem?_getD, List.getD_eq_getElem?_getD, List.getElem?_set]
  by_cases h : i = j
  · subst h
    by_cases hi : i < l.length <;> simp [hi]
  · simp [h]

theorem getD_append_singleton (a : α) (i : Nat) : (l ++ [a]).getD i d = if i = l.length then a else l.getD i d := by
  rw [List.getD_eq_getElem?_getD, List.getD_eq_getElem?_getD, List.getElem?_append]
  by_cases hi : i < l.length
  · rw [if_pos hi, if_neg (by omega)]
  · rw [if_neg hi]
    by_cases he : i = l.length
    · subst he; simp
    · rw [if_neg he, List.getElem?_eq_none (by simp; omega), List.getElem?_eq_none (by omega)]

theorem getD_replicate (n i : Nat) : (List.replicate n d).getD i d = d := by
  rw [List.getD_eq_getElem?_getD, List.getElem?_replicate]; split <;> rfl

theorem getD_cons_replicate (x : α) (n i : Nat) : (x :: List.replicate n d).getD i d = if i = 0 then x else d := by
  cases i with
  | zero => rfl
  | succ i => exact getD_replicate n i

theorem forall_mem_modify {l : List α} {P : α → Prop} {f : α → α} {i : Nat} (hf : ∀ a, P a → P (f a)) (h : ∀ a ∈ l, P a) :
    ∀ a ∈ l.modify i f, P a := by
  intro a ha
  obtain ⟨j, hj, rfl⟩ := List.mem_iff_getElem.mp ha
  rw [List.getElem_modify]
  split
  · exact hf _ (h _ (List.getElem_mem _))
  · exact h _ (List.getElem_mem _)

end getD

/-! ## one slot changes -/

theorem forall_slots {b i : Nat} {P : Nat → Nat → Prop} (hat : P b i)
    (hother : ∀ b' i', ¬(b' = b ∧ i' = i) → P b' i') : ∀ b' i', P b' i' := by
  intro b' i'
  by_cases he : b' = b ∧ i' = i
  · obtain ⟨rfl, rfl⟩ := he; exact hat
  · exact hother b' i' he

/-! ## what the slots hold for one key, before and after a store to slot `(b, i)`

`holds b' i'` is what slot `(b', i')` holds for the key before a writer step, `holds'` after it; the step stores to
slot `(b, i)` only and allocated cells are immutable, so the two agree everywhere else (`hoff`). -/
section store
variable {β : Type} {holds holds' : Nat → Nat → Option β} {b i : Nat}

def Uniq (holds : Nat → Nat → Option β) : Prop :=
  ∀ b i b' i', holds b i ≠ none → holds b' i' ≠ none → b = b' ∧ i = i'

theorem uniq_store (hoff : ∀ b' i', ¬(b' = b ∧ i' = i) → holds' b' i' = holds b' i') (hu : Uniq holds)
    (hfresh : holds' b i ≠ none → ∀ b' i', ¬(b' = b ∧ i' = i) → holds b' i' = none) : Uniq holds' := by
  intro b1 i1 b2 i2 h1 h2
  by_cases e1 : b1 = b ∧ i1 = i <;> by_cases e2 : b2 = b ∧ i2 = i
  · exact ⟨e1.1.trans e2.1.symm, e1.2.trans e2.2.symm⟩
  · obtain ⟨rfl, rfl⟩ := e1
    rw [hoff b2 i2 e2, hfresh h1 b2 i2 e2] at h2
    exact absurd rfl h2
  · obtain ⟨rfl, rfl⟩ := e2
    rw [hoff b1 i1 e1, hfresh h2 b1 i1 e1] at h1
    exact absurd rfl h1
  · rw [hoff b1 i1 e1] at h1
    rw [hoff b2 i2 e2] at h2
    exact hu b1 i1 b2 i2 h1 h2

theorem match_store (hoff : ∀ b' i', ¬(b' = b ∧ i' = i) → holds' b' i' = holds b' i') (hu' : Uniq holds')
    {b1 i1 : Nat} (h : holds' b1 i1 ≠ none) : holds b1 i1 ≠ none ∨ ∀ b' i', holds b' i' = none := by
  by_cases e1 : b1 = b ∧ i1 = i
  · obtain ⟨rfl, rfl⟩ := e1
    refine Classical.or_iff_not_imp_left.mpr fun hn => forall_slots (Classical.not_not.mp hn) fun b' i' e => ?_
    apply Classical.byContradiction
    intro hne
    rw [← hoff b' i' e] at hne
    exact e (hu' b' i' b1 i1 hne h)
  · rw [hoff b1 i1 e1] at h
    exact Or.inl h

/-- What a lock-free scan for the key relies on: the key was absent at a witnessed instant, or every slot that matches
is still ahead of the scan.  `Seen` holds the contents of the key witnessed since the scan started, among them the
current one; `P b i`: the scan has not passed slot `(b, i)`. -/
def Ahead (Seen : Option β → Prop) (holds : Nat → Nat → Option β) (P : Nat → Nat → Prop) : Prop :=
  Seen none ∨ ∀ b i, holds b i ≠ none → P b i

theorem Ahead.mono {Seen : Option β → Prop} {P P' : Nat → Nat → Prop} (h : Ahead Seen holds P)
    (hP : ∀ b i, holds b i ≠ none → P b i → P' b i) : Ahead Seen holds P' :=
  h.imp id fun ha b i hh => hP b i hh (ha b i hh)

theorem Ahead.absent {Seen : Option β → Prop} {P : Nat → Nat → Prop} (h : Ahead Seen holds P)
    (hcur : (∀ b i, holds b i = none) → Seen none) (hP : ∀ b i, holds b i ≠ none → ¬ P b i) : Seen none :=
  h.elim id fun ha => hcur fun b i => Classical.not_not.mp fun hh => hP b i hh (ha b i hh)

theorem Ahead.store {Seen Seen' : Option β → Prop} {P : Nat → Nat → Prop}
    (hoff : ∀ b' i', ¬(b' = b ∧ i' = i) → holds' b' i' = holds b' i') (hu' : Uniq holds')
    (hsub : ∀ v, Seen v → Seen' v) (hcur : (∀ b' i', holds b' i' = none) → Seen none) (h : Ahead Seen holds P) :
    Ahead Seen' holds' P :=
  Classical.or_iff_not_imp_left.mpr fun hn b0 i0 h' =>
    have hp := h.resolve_left fun hw => hn (hsub _ hw)
    (match_store hoff hu' h').elim (hp b0 i0) fun ha => absurd (hsub _ (hcur ha)) hn

end store

/-! ## first match over the slot grid

Both models define the logical content of a key as the first slot, in scan order over `L` buckets of `S` slots, that
holds it: `(grid L S).findSome? fun bi => holds bi.1 bi.2`. -/
section grid
variable {β : Type} (L S : Nat) (holds : Nat → Nat → Option β)

/-- slot coordinates in scan order (what both models call `slots`) -/
def grid : List (Nat × Nat) := (List.range L).flatMap fun b => (List.range S).map fun i => (b, i)

theorem mem_grid (b i : Nat) : (b, i) ∈ grid L S ↔ b < L ∧ i < S := by
  unfold grid
  simp only [List.mem_flatMap, List.mem_range, List.mem_map, Prod.mk.injEq]
  constructor
  · rintro ⟨b', hb', i', hi', rfl, rfl⟩; exact ⟨hb', hi'⟩
  · rintro ⟨hb, hi⟩; exact ⟨b, hb, i, hi, rfl, rfl⟩

variable {L S}

theorem grid_findSome_none_iff (hout : ∀ b i, ¬(b < L ∧ i < S) → holds b i = none) :
    ((grid L S).findSome? fun bi => holds bi.1 bi.2) = none ↔ ∀ b i, holds b i = none := by
  rw [List.findSome?_eq_none_iff]
  constructor
  · intro h b i
    by_cases hin : b < L ∧ i < S
    · exact h (b, i) ((mem_grid L S b i).mpr hin)
    · exact hout b i hin
  · intro h x _; exact h x.1 x.2

theorem grid_findSome_some {v : β} (h : ((grid L S).findSome? fun bi => holds bi.1 bi.2) = some v) :
    ∃ b i, holds b i = some v := by
  obtain ⟨x, _, hx⟩ := List.exists_of_findSome?_eq_some h
  exact ⟨x.1, x.2, hx⟩

theorem grid_findSome_eq_of_holds (hout : ∀ b i, ¬(b < L ∧ i < S) → holds b i = none) (hu : Uniq holds)
    {b i : Nat} {v : β} (h : holds b i = some v) : ((grid L S).findSome? fun bi => holds bi.1 bi.2) = some v := by
  cases hc : (grid L S).findSome? fun bi => holds bi.1 bi.2 with
  | none => rw [(grid_findSome_none_iff holds hout).mp hc b i] at h; cases h
  | some v' =>
    obtain ⟨b', i', h'⟩ := grid_findSome_some holds hc
    obtain ⟨rfl, rfl⟩ := hu b i b' i' (by rw [h]; simp) (by rw [h']; simp)
    rw [h] at h'; exact h'.symm

end grid

/-! ## solo runs: iterating a function -/
section iter
variable {α : Type} (f : α → α)

/-- `f` applied `n` times, the first application innermost (the shape of both `soloReader`s) -/
def iter : Nat → α → α
  | 0, a => a
  | n + 1, a => iter n (f a)

theorem iter_add (n m : Nat) : ∀ a, iter f (n + m) a = iter f m (iter f n a) := by
  induction n with
  | zero => intro a; rw [Nat.zero_add]; rfl
  | succ n ih => intro a; rw [Nat.add_right_comm]; exact ih (f a)

theorem iter_invariant (P : α → Prop) (h : ∀ a, P a → P (f a)) : ∀ n a, P a → P (iter f n a) := by
  intro n
  induction n with
  | zero => intro a ha; exact ha
  | succ n ih => intro a ha; exact ih (f a) (h a ha)

theorem iter_fixed {a : α} (h : f a = a) : ∀ n, iter f n a = a := by
  intro n
  induction n with
  | zero => rfl
  | succ n ih => show iter f n (f a) = a; rw [h]; exact ih

theorem iter_done (J done : α → Prop) (μ : α → Nat) (hJ : ∀ a, J a → J (f a))
    (hdec : ∀ a, J a → ¬ done a → μ (f a) < μ a) (hfix : ∀ a, done a → f a = a) :
    ∀ n a, J a → μ a ≤ n → done (iter f n a) := by
  intro n
  induction n with
  | zero =>
    intro a ha hn
    apply Classical.byContradiction
    intro hd
    have := hdec a ha hd
    omega
  | succ n ih =>
    intro a ha hn
    by_cases hd : done a
    · rw [iter_fixed f (hfix a hd)]; exact hd
    · have := hdec a ha hd
      exact ih (f a) (hJ a ha) (by omega)

end iter

end Proofs.SlotScheme
