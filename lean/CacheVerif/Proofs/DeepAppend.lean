import CacheVerif.Generated.TableLoad
import CacheVerif.Proofs.DeepT
import CacheVerif.Proofs.WordsInv
/-!
# The printed `appendToBucketOf` is `place`: first free slot of the chain, else a new bucket at its end

The one *writing* function of the table layer inside the deep embedding (`execW`: the heap is part of the state).
`appendToBucketOf(h2, entryPtr, b)` is what `copyBucketOf` calls for every entry it moves during a resize.  For every
heap, chain and entry the interpreter on the printed syntax ends (never stuck) in the heap in which that chain is
`appendSpec` of the old one; `appendSpec` is M3's `place` on the slots and keeps the representation `RepB` that the lookup
theorems assume.
-/
set_option linter.unusedSectionVars false

namespace Proofs.DeepAppend
open Deep.T Model.Words Model.Table Proofs.SlotScheme Proofs.Words Proofs.DeepT

variable {K V : Type} [DecidableEq K]

def firstFree (es : List (Option (K × V))) : Option Nat :=
  if (es.getD 0 none).isNone then some 0
  else if (es.getD 1 none).isNone then some 1
  else if (es.getD 2 none).isNone then some 2
  else if (es.getD 3 none).isNone then some 3
  else if (es.getD 4 none).isNone then some 4
  else none

def freshWith (hb : BitVec 8) (k : K) (v : V) : BucketOf K V :=
  ⟨Gen.setByte Gen.defaultMeta hb 0, [some (k, v), none, none, none, none]⟩

/-- what `appendToBucketOf` does to a chain of buckets -/
def appendSpec (hb : BitVec 8) (k : K) (v : V) : List (BucketOf K V) → List (BucketOf K V)
  | [] => []
  | [b] =>
    (match firstFree b.entries with
     | some i => [⟨Gen.setByte b.metaw hb i, b.entries.set i (some (k, v))⟩]
     | none => [b, freshWith hb k v])
  | b :: r :: rs =>
    (match firstFree b.entries with
     | some i => ⟨Gen.setByte b.metaw hb i, b.entries.set i (some (k, v))⟩ :: r :: rs
     | none => b :: appendSpec hb k v (r :: rs))

theorem appendSpec_cons (hb : BitVec 8) (k : K) (v : V) (b : BucketOf K V) (r : List (BucketOf K V)) :
    appendSpec hb k v (b :: r) =
      (match firstFree b.entries with
       | some i => ⟨Gen.setByte b.metaw hb i, b.entries.set i (some (k, v))⟩ :: r
       | none => b :: (if r = [] then [freshWith hb k v] else appendSpec hb k v r)) := by
  cases r <;> cases hf : firstFree b.entries <;> simp [appendSpec, hf]

theorem firstFree_eq (es : List (Option (K × V))) :
    firstFree es = firstMarked some (fun n => (es.getD n none).isNone) 5 0 := by
  have orE_ite : ∀ (c : Bool) (n : Nat) (r : Option Nat), orE (if c then some n else none) r = if c then some n else r :=
    fun c n r => by cases c <;> rfl
  simp only [firstFree, firstMarked, orE_ite]

theorem firstFree_lt (es : List (Option (K × V))) (i : Nat) (h : firstFree es = some i) : i < 5 := by
  rw [firstFree_eq] at h
  exact firstMarked_some_lt _ 5 0 i h

/-! ### pieces of the printed syntax -/

/-- the body is one `for { … }` -/
def bodyA : Stmt := Gen.Deep.T_appendToBucketOf.body
def obodyA : Stmt := unblock (loopBody bodyA)
/-- `for i := 0; i < entriesPerMapOfBucket; i++ { if b.entries[i] == nil { b.meta = setByte(b.meta, h2, i);
b.entries[i] = entryPtr; return } }` -/
def forA : Stmt := nth obodyA 0
/-- `if b.next == nil { newb := new(bucketOfPadded); newb.meta = setByte(defaultMeta, h2, 0); newb.entries[0] = entryPtr;
b.next = …(newb); return }` -/
def ifA : Stmt := nth obodyA 1
/-- `b = (*bucketOfPadded)(b.next)` -/
def asgA : Stmt := nth obodyA 2

theorem forA_shape : forA = .for3 (forInit forA) (forCond forA) (forPost forA) (forBody forA) := rfl
theorem bodyA_shape : loopBody bodyA = .block (.seq forA (.seq ifA asgA)) := rfl
theorem outerA_shape : bodyA = .forever (loopBody bodyA) := rfl

def envB (hb : BitVec 8) (k : K) (v : V) (ci j : Nat) : Env K V :=
  [("h2", .w8 hb), ("entryPtr", .entry k v), ("b", .bucketRef ci j)]

def hset (h : Heap K V) (ci : Nat) (c : List (BucketOf K V)) (j : Nat) (b' : BucketOf K V) : Heap K V :=
  { h with chains := h.chains.set ci (c.set j b') }

theorem setBucket_eq (h : Heap K V) (ci j : Nat) (c : List (BucketOf K V)) (b : BucketOf K V)
    (hc : h.chains[ci]? = some c) (hb : c[j]? = some b) (f : BucketOf K V → BucketOf K V) :
    setBucket h ci j f = some (hset h ci c j (f b)) := by
  simp [setBucket, hc, hb, hset]

theorem bucketAt_hset (h : Heap K V) (ci j : Nat) (c : List (BucketOf K V)) (b' : BucketOf K V)
    (hc : h.chains[ci]? = some c) (hj : j < c.length) : bucketAt (hset h ci c j b') ci j = some b' := by
  simp [bucketAt, hset, lt_of_getElem? hc, hj]

theorem setBucket_hset (h : Heap K V) (ci j : Nat) (c : List (BucketOf K V)) (b' : BucketOf K V)
    (hc : h.chains[ci]? = some c) (hj : j < c.length) (f : BucketOf K V → BucketOf K V) :
    setBucket (hset h ci c j b') ci j f = some (hset h ci c j (f b')) := by
  simp [setBucket, hset, lt_of_getElem? hc, hj]

theorem forA_step (fuel : Nat) (h : Heap K V) (hb8 : BitVec 8) (k : K) (v : V) (ci j : Nat) (c : List (BucketOf K V))
    (hc : h.chains[ci]? = some c) (b : BucketOf K V) (hb : c[j]? = some b) (hlen : b.entries.length = 5)
    (n : Nat) (hn : n < 5) :
    iter3W (fun w => eval w.1 w.2 (forCond forA)) (fun w => execW fuel [] (forBody forA) w)
        (fun w => execW fuel [] (forPost forA) w) (h, ("i", .int n) :: envB hb8 k v ci j) =
      (if (b.entries.getD n none).isNone then
        some (.ret (hset h ci c j ⟨Gen.setByte b.metaw hb8 n, b.entries.set n (some (k, v))⟩) [])
       else some (.normal (h, ("i", .int ((n : Int) + 1)) :: envB hb8 k v ci j))) := by
  have hlt : (n : Int) < 5 := by omega
  have hge : 0 ≤ (n : Int) := by omega
  have hb' : bucketAt h ci j = some b := by simp [bucketAt, hc, hb]
  have hj : j < c.length := lt_of_getElem? hb
  have hn5 : n < b.entries.length := by omega
  rw [List.getD_eq_getElem?_getD, List.getElem?_eq_getElem hn5, Option.getD_some]
  cases he : b.entries[n] with
  | none =>
    -- free slot: two stores and return
    simp [forA, obodyA, bodyA, Gen.Deep.T_appendToBucketOf, envB, Gen.entriesPerMapOfBucket, hlt, hge, hb', hlen, hn, he,
      setBucket_eq h ci j c b hc hb, bucketAt_hset h ci j c _ hc hj, setBucket_hset h ci j c _ hc hj]
  | some e =>
    simp [forA, obodyA, bodyA, Gen.Deep.T_appendToBucketOf, envB, Gen.entriesPerMapOfBucket, hlt, hge, hb', hlen, hn, he]

theorem forA_exit (fuel : Nat) (w : Heap K V) (env : Env K V) :
    iter3W (fun w => eval w.1 w.2 (forCond forA)) (fun w => execW fuel [] (forBody forA) w)
        (fun w => execW fuel [] (forPost forA) w) (w, ("i", .int 5) :: env) =
      some (.brk (w, ("i", .int 5) :: env)) := by
  simp [forA, obodyA, bodyA, Gen.Deep.T_appendToBucketOf, Gen.entriesPerMapOfBucket]

/-- **the `for i` loop** over the five slots of one bucket: fill the first free one and return, or fall through -/
theorem forA_loop (fuel : Nat) (hf : 6 ≤ fuel) (h : Heap K V) (hb8 : BitVec 8) (k : K) (v : V) (ci j : Nat) (c : List (BucketOf K V))
    (hc : h.chains[ci]? = some c) (b : BucketOf K V) (hb : c[j]? = some b) (hlen : b.entries.length = 5) :
    execW fuel [] forA (h, envB hb8 k v ci j) =
      (match firstFree b.entries with
       | some i => some (.ret (hset h ci c j ⟨Gen.setByte b.metaw hb8 i, b.entries.set i (some (k, v))⟩) [])
       | none => some (.normal (h, envB hb8 k v ci j))) := by
  have hinit : execW fuel [] (forInit forA) (h, envB hb8 k v ci j) =
      some (.normal (h, ("i", .int 0) :: envB hb8 k v ci j)) := by
    simp [forA, obodyA, bodyA, Gen.Deep.T_appendToBucketOf]
  rw [forA_shape, firstFree_eq]
  simp only [execW, hinit]
  refine (congrArg (leaveW _) (count_loopW _ (fun n => (h, ("i", .int n) :: envB hb8 k v ci j)) 5
    (fun n => (b.entries.getD n none).isNone)
    (fun n => hset h ci c j ⟨Gen.setByte b.metaw hb8 n, b.entries.set n (some (k, v))⟩)
    (fun n hn => forA_step fuel h hb8 k v ci j c hc b hb hlen n hn) (forA_exit fuel h _) 5 0 fuel rfl hf)).trans ?_
  cases firstMarked some (fun n => (b.entries.getD n none).isNone) 5 0 <;> simp [envB]

/-! ### after the slots: follow `next`, or append a fresh bucket

(`app_set_last`, `app_set_left`: `List.set` on a chain with a bucket appended; `simp` does without them below.) -/

theorem app_set_last {α : Type} (l : List α) (x y : α) : (l ++ [x]).set l.length y = l ++ [y] := by simp
theorem app_set_left {α : Type} (l : List α) (y z : α) (i : Nat) (hi : i < l.length) :
    (l ++ [y]).set i z = l.set i z ++ [y] := by
  rw [List.set_append_left _ _ hi]

theorem rest_next (fuel : Nat) (h : Heap K V) (hb8 : BitVec 8) (k : K) (v : V) (ci j : Nat) (c : List (BucketOf K V))
    (hc : h.chains[ci]? = some c) (hj : j + 1 < c.length) :
    execW fuel [] (.seq ifA asgA) (h, envB hb8 k v ci j) = some (.normal (h, envB hb8 k v ci (j + 1))) := by
  simp [ifA, asgA, obodyA, bodyA, Gen.Deep.T_appendToBucketOf, envB, hc, hj]

theorem rest_last (fuel : Nat) (h : Heap K V) (hb8 : BitVec 8) (k : K) (v : V) (ci j : Nat) (c : List (BucketOf K V))
    (hc : h.chains[ci]? = some c) (hj : j + 1 = c.length) :
    execW fuel [] (.seq ifA asgA) (h, envB hb8 k v ci j) =
      some (.ret { h with chains := h.chains.set ci (c ++ [freshWith hb8 k v]) } []) := by
  have hci : ci < h.chains.length := lt_of_getElem? hc
  have hne : ¬ ci = h.chains.length := by omega
  have hc2 : h.chains[ci] = c := (List.getElem?_eq_some_iff.1 hc).2
  have hjl : j < c.length := by omega
  have g2 : ∀ x : List (BucketOf K V), (h.chains ++ [x])[ci]? = some c := fun x => by
    rw [List.getElem?_append_left hci, hc]
  simp [ifA, obodyA, bodyA, Gen.Deep.T_appendToBucketOf, envB, hjl, setBucket, bucketAt, g2,
    zeroBucket, linkFresh, hj, hne, hci, freshWith, hc2]

theorem outerA_step (fuel : Nat) (hf : 6 ≤ fuel) (h : Heap K V) (hb8 : BitVec 8) (k : K) (v : V) (ci j : Nat) (c : List (BucketOf K V))
    (hc : h.chains[ci]? = some c) (b : BucketOf K V) (hb : c[j]? = some b) (hlen : b.entries.length = 5) :
    execW fuel [] (loopBody bodyA) (h, envB hb8 k v ci j) =
      (match firstFree b.entries with
       | some i => some (.ret (hset h ci c j ⟨Gen.setByte b.metaw hb8 i, b.entries.set i (some (k, v))⟩) [])
       | none =>
         if j + 1 < c.length then some (.normal (h, envB hb8 k v ci (j + 1)))
         else some (.ret { h with chains := h.chains.set ci (c ++ [freshWith hb8 k v]) } [])) := by
  have hjl : j < c.length := lt_of_getElem? hb
  rw [bodyA_shape]
  have hseq : ∀ w : W K V, execW fuel [] (.seq forA (.seq ifA asgA)) w =
      (match execW fuel [] forA w with
       | some (OutW.normal w') => execW fuel [] (.seq ifA asgA) w'
       | r => r) := fun w => rfl
  -- the interpreter is unfolded at `.block` and `.seq` (the three pieces stay folded) in the goal and in `hseq` alike,
  -- since `rw` needs the `match` spelled the same way on both sides; the same for `rest_next` / `rest_last` below
  simp only [execW] at hseq ⊢
  rw [hseq, forA_loop fuel hf h hb8 k v ci j c hc b hb hlen]
  cases hff : firstFree b.entries with
  | some i => simp
  | none =>
    simp only
    by_cases hj : j + 1 < c.length
    · have := rest_next fuel h hb8 k v ci j c hc hj
      simp only [execW] at this
      rw [this]
      simp [hj, envB]
    · have := rest_last fuel h hb8 k v ci j c hc (by omega)
      simp only [execW] at this
      rw [this]
      simp [hj]

theorem outerA_loop (fuel : Nat) (hf : 6 ≤ fuel) (h : Heap K V) (hb8 : BitVec 8) (k : K) (v : V) (ci : Nat) (c : List (BucketOf K V))
    (hc : h.chains[ci]? = some c) (hlen : ∀ b ∈ c, b.entries.length = 5) :
    ∀ (suf pre : List (BucketOf K V)) (n : Nat), c = pre ++ suf → suf ≠ [] → suf.length ≤ n →
      loopNW (fun w => execW fuel [] (loopBody bodyA) w) n (h, envB hb8 k v ci pre.length) =
        some (.ret { h with chains := h.chains.set ci (pre ++ appendSpec hb8 k v suf) } []) := by
  intro suf
  induction suf with
  | nil => intro _ _ _ hne; exact absurd rfl hne
  | cons b r ih =>
    intro pre n hcs _ hn
    obtain ⟨n, rfl⟩ : ∃ n', n = n' + 1 := ⟨n - 1, by simp at hn; omega⟩
    subst hcs
    rw [loopNW, outerA_step fuel hf h hb8 k v ci pre.length _ hc b (by simp) (hlen b (by simp)), appendSpec_cons]
    cases firstFree b.entries with
    | some i => simp [hset]
    | none =>
      by_cases hr : r = []
      · subst hr; simp
      · have := ih (pre ++ [b]) n (by simp) hr (by simpa using hn)
        simp only [List.length_append, List.length_cons, List.length_nil, List.append_assoc] at this
        simpa [hr, List.length_pos_iff] using this

/-- **the printed `appendToBucketOf` applies `appendSpec` to the chain of the bucket it is handed** -/
theorem append_eq_spec (fuel : Nat) (hf : 6 ≤ fuel) (h : Heap K V) (hb8 : BitVec 8) (k : K) (v : V) (ci : Nat)
    (c : List (BucketOf K V)) (hc : h.chains[ci]? = some c) (hne : c ≠ []) (hfuel : c.length ≤ fuel)
    (hlen : ∀ b ∈ c, b.entries.length = 5) :
    callW fuel h Gen.Deep.T_appendToBucketOf [.w8 hb8, .entry k v, .bucketRef ci 0] =
      some ({ h with chains := h.chains.set ci (appendSpec hb8 k v c) }, []) := by
  have hloop : loopNW (fun w => execW fuel [] (loopBody bodyA) w) fuel (h, envB hb8 k v ci 0) =
      some (.ret { h with chains := h.chains.set ci (appendSpec hb8 k v c) } []) :=
    outerA_loop fuel hf h hb8 k v ci c hc hlen c [] fuel rfl hne hfuel
  have hcall : callW fuel h Gen.Deep.T_appendToBucketOf [.w8 hb8, .entry k v, .bucketRef ci 0] =
      (match execW fuel [] bodyA (h, envB hb8 k v ci 0) with
        | some (.ret h' vs) => some (h', vs)
        | _ => none) := rfl
  rw [hcall, outerA_shape]
  simp only [execW]
  rw [hloop]

/-! ### `appendSpec` is M3's `place`, and keeps the representation -/

theorem appendSpec_ne (hb8 : BitVec 8) (k : K) (v : V) (c : List (BucketOf K V)) (hne : c ≠ []) :
    appendSpec hb8 k v c ≠ [] := by
  cases c with
  | nil => exact absurd rfl hne
  | cons b r => rw [appendSpec_cons]; split <;> simp

theorem appendSpec_length_le (hb8 : BitVec 8) (k : K) (v : V) (c : List (BucketOf K V)) :
    (appendSpec hb8 k v c).length ≤ c.length + 1 := by
  induction c with
  | nil => simp [appendSpec]
  | cons b r ih =>
    rw [appendSpec_cons]
    split
    · simp
    · split
      · simp [*]
      · simp only [List.length_cons]; omega

theorem fillFirst_firstFree (k : K) (v : V) (es : Slots K V) (h5 : es.length = 5) :
    fillFirst k v es = (firstFree es).map fun i => es.set i (some (k, v)) := by
  match es, h5 with
  | [e0, e1, e2, e3, e4], _ =>
    rcases e0 with _ | x0 <;> rcases e1 with _ | x1 <;> rcases e2 with _ | x2 <;> rcases e3 with _ | x3 <;>
      rcases e4 with _ | x4 <;> rfl

theorem fillFirst_append (k : K) (v : V) (a b : Slots K V) :
    fillFirst k v (a ++ b) =
      (match fillFirst k v a with
       | some a' => some (a' ++ b)
       | none => (fillFirst k v b).map (a ++ ·)) := by
  induction a with
  | nil => cases hfb : fillFirst k v b <;> simp [fillFirst, hfb]
  | cons x r ih =>
    rcases x with _ | e
    · simp [fillFirst]
    · simp only [List.cons_append, fillFirst, ih]
      cases fillFirst k v r with
      | some r' => simp
      | none => cases fillFirst k v b <;> simp

theorem place_append (S : Nat) (k : K) (v : V) (a s : Slots K V) :
    place S k v (a ++ s) = (match fillFirst k v a with | some a' => a' ++ s | none => a ++ place S k v s) := by
  unfold place
  rw [fillFirst_append]
  cases fillFirst k v a with
  | some a' => rfl
  | none => cases fillFirst k v s <;> simp

theorem appendSpec_flat (hb8 : BitVec 8) (k : K) (v : V) (c : List (BucketOf K V)) (hne : c ≠ [])
    (hlen : ∀ b ∈ c, b.entries.length = 5) :
    flat (appendSpec hb8 k v c) = place 5 k v (flat c) := by
  induction c with
  | nil => exact absurd rfl hne
  | cons b r ih =>
    have hflat : ∀ (x : BucketOf K V) (l : List (BucketOf K V)), flat (x :: l) = x.entries ++ flat l := fun _ _ => rfl
    rw [appendSpec_cons, hflat b r, place_append, fillFirst_firstFree k v _ (hlen b (by simp))]
    cases firstFree b.entries with
    | some i => rfl
    | none =>
      simp only [Option.map_none, hflat]
      split
      · rename_i hr; subst hr; rfl
      · rename_i hr; rw [ih hr (fun x hx => hlen x (by simp [hx]))]

theorem appendSpec_rep (hk : K → BitVec 8) (k : K) (v : V) (c : List (BucketOf K V)) (hrep : ∀ b ∈ c, RepB hk b) :
    ∀ b ∈ appendSpec (hk k) k v c, RepB hk b := by
  induction c with
  | nil => intro b hb; cases hb
  | cons b r ih =>
    have hb := hrep b (by simp)
    have hr : ∀ x ∈ r, RepB hk x := fun x hx => hrep x (by simp [hx])
    rw [appendSpec_cons]
    intro x hx
    split at hx
    · rename_i i hf
      rcases List.mem_cons.1 hx with rfl | hx
      · exact Proofs.WordsInv.repB_insert hk b hb i (firstFree_lt _ _ hf) k v
      · exact hr x hx
    · rcases List.mem_cons.1 hx with rfl | hx
      · exact hb
      · split at hx
        · rw [List.mem_singleton.1 hx]; exact Proofs.WordsInv.repB_newBucket hk k v
        · exact ih hr x hx

end Proofs.DeepAppend
