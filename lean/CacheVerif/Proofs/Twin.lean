import CacheVerif.Model.Cache
import CacheVerif.Model.CacheOf
import CacheVerif.Proofs.LeafCache
/-!
# The two cache-layer models are extensionally equal

`Model.CacheOf` and `Model.Cache` are separate transcriptions of `xsync_mapof.go` and `xsync_map.go`, over separately
generated leaves.  The leaves agree (`leaf_*_eq`, through the spec's functions in `LeafCache`), so every function of
the one model is the function of the other, hence `step_eq`, `run_eq`, `construct_eq`.

The facts about one model at a time, at the end, stand here because their users are the symbolic evaluation of the twins
(which has this file through `DeepSimpSet`) and `ConcCacheSolo`, and the evaluation does not import the refinement
(`CacheRefine`, `CacheLedger`).
-/
namespace Proofs.Twin
open Model Spec Proofs.LeafCache
set_option linter.unusedSectionVars false
variable {K V : Type} [DecidableEq K] [Inhabited V]

theorem leaf_expired_eq (e now : Int) : Gen.itemOf_expired e now = Gen.item_expired e now := by
  rw [item_expired_eq, itemOf_expired_eq]

theorem leaf_expiredWithNow_eq (e now : Int) : Gen.itemOf_expiredWithNow e now = Gen.item_expiredWithNow e now := by
  rw [item_expiredWithNow_eq, itemOf_expiredWithNow_eq]

theorem leaf_expiration_eq (d dflt now : Int) : Gen.expirationOf d dflt now = Gen.expiration d dflt now := by
  rw [LeafCache.expiration_eq, expirationOf_eq]

theorem expired_eq (s : CSt K V) (i : Item V) : CacheOf.expired s i = Cache.expired s i := leaf_expired_eq i.e s.now

theorem expiration_eq (s : CSt K V) (d : Int) : CacheOf.expiration s d = Cache.expiration s d := leaf_expiration_eq d s.dflt s.now

theorem set_eq (s : CSt K V) (k : K) (v : V) (d : Int) : CacheOf.set s k v d = Cache.set s k v d := by
  simp [CacheOf.set, Cache.set, expiration_eq]

theorem get_eq (s : CSt K V) (k : K) : CacheOf.get s k = Cache.get s k := by
  simp only [CacheOf.get, Cache.get, expired_eq]
  rfl

theorem getOrSetFn_eq (s : CSt K V) (v : V) (d : Int) : CacheOf.getOrSetFn s v d = Cache.getOrSetFn s v d := by
  funext o; cases o <;> simp [CacheOf.getOrSetFn, Cache.getOrSetFn, expired_eq, expiration_eq]

theorem refreshFn_eq (s : CSt K V) (d : Int) : CacheOf.refreshFn s d = Cache.refreshFn s d := by
  funext o; cases o <;> simp [CacheOf.refreshFn, Cache.refreshFn, expired_eq, expiration_eq]

theorem liveOld_eq (s : CSt K V) (o : Option (Item V)) : CacheOf.liveOld s o = Cache.liveOld s o := by
  cases o <;> simp [CacheOf.liveOld, Cache.liveOld, expired_eq]

theorem computeFn_eq (s : CSt K V) (g : Option V → V × Bool) (d : Int) : CacheOf.computeFn s g d = Cache.computeFn s g d := by
  funext o; simp [CacheOf.computeFn, Cache.computeFn, liveOld_eq, expiration_eq]

theorem walk_eq (now : Int) (f : K → V → Bool) (l : List (K × Item V)) : CacheOf.walk now f l = Cache.walk now f l := by
  induction l with
  | nil => rfl
  | cons p rest ih => obtain ⟨k, i⟩ := p; simp [CacheOf.walk, Cache.walk, leaf_expiredWithNow_eq, ih]

theorem sweepFn_eq (now : Int) : CacheOf.sweepFn (V := V) now = Cache.sweepFn now := by
  funext o; cases o <;> simp [CacheOf.sweepFn, Cache.sweepFn, leaf_expiredWithNow_eq]

theorem sweep_eq (now : Int) (hasCb : Bool) (l : List (K × Item V)) (acc : AMap K (Item V) × List (K × V)) :
    CacheOf.sweep now hasCb l acc = Cache.sweep now hasCb l acc := by
  induction l generalizing acc with
  | nil => rfl
  | cons p rest ih => obtain ⟨k, i⟩ := p; simp only [CacheOf.sweep, Cache.sweep, leaf_expiredWithNow_eq, sweepFn_eq, ih]; rfl

theorem getAndDelete_eq (s : CSt K V) (k : K) : CacheOf.getAndDelete s k = Cache.getAndDelete s k := by
  simp only [CacheOf.getAndDelete, Cache.getAndDelete, expired_eq]
  rfl

theorem step_eq (s : CSt K V) (op : Op K V) : CacheOf.step s op = Cache.step s op := by
  cases op <;>
    simp only [CacheOf.step, Cache.step, set_eq, get_eq, getOrSetFn_eq, refreshFn_eq, liveOld_eq, computeFn_eq, walk_eq,
      sweep_eq, getAndDelete_eq, expired_eq, expiration_eq] <;> rfl

theorem run_eq (s : CSt K V) (ops : List (Op K V)) : CacheOf.run s ops = Cache.run s ops := by
  induction ops generalizing s with
  | nil => rfl
  | cons op ops ih => simp [CacheOf.run, Cache.run, step_eq, ih]

theorem construct_eq (c : Cache.Ctor) (now : Int) : CacheOf.construct (K := K) (V := V) c now = Cache.construct c now := by
  cases c <;>
    simp only [CacheOf.construct, Cache.construct, CacheOf.newXsyncMapOf, Cache.newXsyncMap, configDefaultOf_eq] <;> rfl

/-! ## One model at a time -/

theorem _root_.Model.Cache.step_compute (s : CSt K V) (k : K) (g : Option V → V × Bool) (d : Int) :
    Cache.step s (.compute k g d) = Cache.step s (.computeSlow k g d 0) := by
  cases hd : (g (Cache.liveOld s (s.items.get k))).2 <;>
    simp [Cache.step, Cache.computeFn, Cache.expiration, AMap.compute_eq, hd]

theorem _root_.Model.Cache.step_getOrCompute (s : CSt K V) (k : K) (f : V) (d : Int) :
    Cache.step s (.getOrCompute k f d) = Cache.step s (.getOrComputeSlow k f d 0) := by
  cases hg : s.items.get k with
  | none => simp [Cache.step, Cache.getOrSetFn, Cache.expiration, AMap.compute_eq, hg]
  | some i => cases he : Cache.expired s i <;> simp [Cache.step, Cache.getOrSetFn, Cache.expiration, AMap.compute_eq, hg, he]

theorem _root_.Model.CacheOf.step_compute (s : CSt K V) (k : K) (g : Option V → V × Bool) (d : Int) :
    CacheOf.step s (.compute k g d) = CacheOf.step s (.computeSlow k g d 0) := by
  rw [step_eq, step_eq, Cache.step_compute]

theorem _root_.Model.CacheOf.step_getOrCompute (s : CSt K V) (k : K) (f : V) (d : Int) :
    CacheOf.step s (.getOrCompute k f d) = CacheOf.step s (.getOrComputeSlow k f d 0) := by
  rw [step_eq, step_eq, Cache.step_getOrCompute]

theorem sweep_cons (now : Int) (hasCb : Bool) (p : K × Item V) (l : List (K × Item V))
    (acc : AMap K (Item V) × List (K × V)) : Cache.sweep now hasCb (p :: l) acc = Cache.sweep now hasCb l (Cache.sweep now hasCb [p] acc) := by
  obtain ⟨k, i⟩ := p
  by_cases he : Gen.item_expiredWithNow i.e now <;> simp [Cache.sweep, he]

theorem sweep_noCb (now : Int) (l : List (K × Item V)) (acc : AMap K (Item V) × List (K × V)) :
    (Cache.sweep now false l acc).2 = acc.2 := by
  induction l generalizing acc with
  | nil => rfl
  | cons p l ih =>
    obtain ⟨k, i⟩ := p
    unfold Cache.sweep
    split
    · rw [ih]; cases acc.1.get k <;> simp
    · exact ih acc

end Proofs.Twin
