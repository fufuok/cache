import CacheVerif.Proofs.DeepCacheOf
import CacheVerif.Proofs.DeepTrace
/-!
# The steps of M5 are the atomic actions of the text of `xsync_mapof.go` too

`DeepCacheOf.meets`: a tracing twin of the generic file records `DeepActions.actions`, the list `DeepTrace.solo_actions`
shows the steps of M5 to be.  So what `DeepTrace` says of `xsync_map.go` holds of `xsync_mapof.go`, by the same
corollaries.
-/
namespace DeepTraceOf
open Deep Model Spec Model.ConcCache Proofs.ConcCacheSolo DeepActions DeepTraceCommon
variable {K V : Type} [DecidableEq K] [Inhabited V]

theorem ofe (d dflt now : Int) : Gen.expirationOf d dflt now = Gen.expiration d dflt now := Proofs.Twin.leaf_expiration_eq d dflt now

theorem trace_eq (g : G K V) (op : COp K V) :
    ∃ cs t, soloTrace g L.init (start op :: cs) = some t ∧
      deepTrace twinMapOfTr (view g) (toSpec op) =
        some ((Cache.step (view g) (toSpec op)).1, (Cache.step (view g) (toSpec op)).2, t) := by
  obtain ⟨cs, h⟩ := DeepTrace.solo_actions g op
  refine ⟨cs, _, h, ?_⟩
  rw [← Proofs.Twin.step_eq]
  exact DeepCacheOf.meets true (view g) (toSpec op) (isCall_toSpec op)

theorem trace_actions (s : CSt K V) (op : Op K V) (hop : isCall op) :
    (deepTrace twinMapOfTr s op).map (·.2.2) = some (actions s op) := by
  rw [show (twinMapOfTr : Twin K V) = DeepCacheOf.twin true id from rfl, DeepCacheOf.meets true s op hop]; rfl

theorem callbacks_unlocked (s : CSt K V) (op : COp K V) :
    ∀ r, deepTrace twinMapOfTr s (toSpec op) = some r → Ev.calledLocked ∉ r.2.2 :=
  DeepTrace.unlocked_of_actions (trace_actions s _ (isCall_toSpec op)) (DeepTrace.actions_unlocked s op)

theorem visitor_unlocked (s : CSt K V) (f : K → V → Bool) :
    ∀ r, deepTrace twinMapOfTr s (.range f) = some r → Ev.calledLocked ∉ r.2.2 :=
  DeepTrace.unlocked_of_actions (trace_actions s _ trivial) (by simp [actions, rangeEvs_unlocked])

/-- `DeepTrace.readOnly`, word for word (used beside it in `C16_source_lookups_read_only`) -/
def readOnly : Ev K V → Bool
  | .load _ | .size | .clock => true
  | _ => false

end DeepTraceOf
