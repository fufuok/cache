import CacheVerif.Spec.AMap
/-! Association lists filtered by a predicate on values (dropping the expired entries is one).  `vfilter_eq_self` and
`vfilter_vfilter_of_imp` have no user: they say when filtering is idle. -/
set_option linter.unusedSectionVars false
namespace Spec.AMap
variable {K α : Type} [DecidableEq K]

def vfilter (m : AMap K α) (Q : α → Bool) : AMap K α := m.filter fun p => Q p.2

@[simp] theorem vfilter_nil (Q : α → Bool) : vfilter ([] : AMap K α) Q = [] := rfl

theorem vfilter_cons (k : K) (v : α) (m : AMap K α) (Q : α → Bool) :
    vfilter ((k, v) :: m) Q = if Q v then (k, v) :: vfilter m Q else vfilter m Q := by
  simp [vfilter, List.filter_cons]

theorem mem_vfilter (m : AMap K α) (Q : α → Bool) (p : K × α) : p ∈ vfilter m Q ↔ p ∈ m ∧ Q p.2 = true := by
  simp [vfilter]

theorem vfilter_eq_self (m : AMap K α) (Q : α → Bool) (h : ∀ p ∈ m, Q p.2 = true) : vfilter m Q = m :=
  List.filter_eq_self.mpr h

theorem vfilter_vfilter_of_imp (m : AMap K α) (Q R : α → Bool) (h : ∀ v, R v = true → Q v = true) :
    vfilter (vfilter m Q) R = vfilter m R := by
  simp only [vfilter, List.filter_filter]
  congr 1; funext p
  by_cases hr : R p.2 = true
  · simp [hr, h _ hr]
  · simp [hr]

theorem vfilter_erase (m : AMap K α) (k : K) (Q : α → Bool) : vfilter (erase m k) Q = erase (vfilter m Q) k := by
  simp only [vfilter, erase, List.filter_filter]
  congr 1; funext p; exact Bool.and_comm _ _

theorem vfilter_set (m : AMap K α) (k : K) (v : α) (Q : α → Bool) :
    vfilter (set m k v) Q = if Q v then set (vfilter m Q) k v else erase (vfilter m Q) k := by
  unfold set
  rw [vfilter_cons, vfilter_erase]

theorem keys_vfilter_sublist (m : AMap K α) (Q : α → Bool) : (keys (vfilter m Q)).Sublist (keys m) :=
  List.Sublist.map _ List.filter_sublist

theorem WF_vfilter (m : AMap K α) (Q : α → Bool) (h : WF m) : WF (vfilter m Q) := WF_filter m _ h

theorem get_vfilter (m : AMap K α) (hw : WF m) (Q : α → Bool) (k : K) : get (vfilter m Q) k = (get m k).filter Q :=
  Option.ext fun v => by
    rw [Option.filter_eq_some_iff, ← mem_iff_get m hw (k, v), ← mem_iff_get _ (WF_vfilter m Q hw) (k, v), mem_vfilter]

end Spec.AMap
