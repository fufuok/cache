import CacheVerif.Proofs.DeepAppend
import CacheVerif.Proofs.TableRefine
/-!
# Copying entries bucket-wise with `appendToBucketOf` is M3's `copyAll`

`Proofs/DeepAppend.lean` proves what one call of the printed `appendToBucketOf` does to one chain (`appendSpec` = `place`,
representation kept).  Folded over the entries a resize moves, in order, it yields a heap whose slots are exactly the
table M3's `copyAll` builds (MapOf variant), and every chain stays non-empty and representative - for every hash function,
seed and destination table.  (That `copyBucketOf` calls `appendToBucketOf` once per entry, having taken `h1` and `h2` of
the entry's hash, is the skeleton in `Expect.Resize`; the arguments of the call are not in it.)
-/
namespace Proofs.CopyRep
open Model.Words Model.Table Proofs.SlotScheme Proofs.DeepAppend

variable {K V : Type} [DecidableEq K]

def moveOne (hk : K → BitVec 8) (bidx : K → Nat) (cs : List (List (BucketOf K V))) (e : K × V) : List (List (BucketOf K V)) :=
  cs.set (bidx e.1) (appendSpec (hk e.1) e.1 e.2 (cs.getD (bidx e.1) []))

def moveAll (hk : K → BitVec 8) (bidx : K → Nat) (es : List (K × V)) (cs : List (List (BucketOf K V))) :
    List (List (BucketOf K V)) := es.foldl (moveOne hk bidx) cs

def Good (hk : K → BitVec 8) (cs : List (List (BucketOf K V))) : Prop := ∀ c ∈ cs, c ≠ [] ∧ ∀ b ∈ c, RepB hk b

theorem moveOne_good (hk : K → BitVec 8) (bidx : K → Nat) (cs : List (List (BucketOf K V))) (e : K × V)
    (hg : Good hk cs) (hi : bidx e.1 < cs.length) : Good hk (moveOne hk bidx cs e) := by
  intro c hc
  rcases List.mem_or_eq_of_mem_set hc with hmem | heq
  · exact hg c hmem
  · have := hg _ (getD_mem [] hi)
    subst heq
    exact ⟨appendSpec_ne _ _ _ _ this.1, appendSpec_rep hk e.1 e.2 _ this.2⟩

theorem moveOne_flat (hk : K → BitVec 8) (bidx : K → Nat) (cs : List (List (BucketOf K V))) (e : K × V)
    (hg : Good hk cs) (hi : bidx e.1 < cs.length) :
    (moveOne hk bidx cs e).map flat = (cs.map flat).set (bidx e.1) (place 5 e.1 e.2 ((cs.map flat).getD (bidx e.1) [])) := by
  have hgc := hg _ (getD_mem [] hi)
  unfold moveOne
  rw [List.map_set, appendSpec_flat (hk e.1) e.1 e.2 _ hgc.1 (fun b hb => (hgc.2 b hb).1)]
  congr 2
  rw [List.getD_eq_getElem?_getD, List.getD_eq_getElem?_getD, List.getElem?_map, List.getElem?_eq_getElem hi]
  rfl

/-- **all entries: `copyAll`** (MapOf variant) - chains of the model table = slots of the heap, before and after, whatever
byte function `hk` the `meta` words follow; `s` and `n` are the seed and the length, which copying keeps, and `bidx` is the
bucket index they give -/
theorem moveAll_chains (env : Model.Table.Env K) (hk : K → BitVec 8) (s : BitVec 64) (n : Nat) (hn : 0 < n) (bidx : K → Nat)
    (hbidx : ∀ k, bidx k = (Gen.h1 (env.hash k s)).toNat % n) (es : List (K × V)) :
    ∀ (cs : List (List (BucketOf K V))) (d : Tbl K V), d.chains = cs.map flat → d.seed = s → cs.length = n → Good hk cs →
      (copyAll mapOfVariant env es d).chains = (moveAll hk bidx es cs).map flat ∧ Good hk (moveAll hk bidx es cs) := by
  induction es with
  | nil => intro cs d hd _ _ hg; exact ⟨hd, hg⟩
  | cons e r ih =>
    intro cs d hd hs hl hg
    have hi : bidx e.1 < cs.length := by rw [hbidx, hl]; exact Nat.mod_lt _ hn
    have hb : d.bucketOf mapOfVariant env e.1 = bidx e.1 := by
      simp [Tbl.bucketOf, Tbl.len, mapOfVariant, hd, hs, hl, hbidx]
    rw [Proofs.TableRefine.copyAll_cons]
    refine ih _ _ ?_ hs (by simp [moveOne, hl]) (moveOne_good _ _ cs e hg hi)
    rw [moveOne_flat _ _ cs e hg hi, ← hd, ← hb]
    rfl

end Proofs.CopyRep
