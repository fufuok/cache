import CacheVerif.Proofs.WordsInv
/-!
# The in-place stores of `MapOf.doCompute` on a bucket are M3's `upd` and `del` on the chain's slots

`doCompute` updates or deletes *the slot its search found* - the first slot of the chain whose key equals the argument:
update = a new entry pointer in that slot (`meta` untouched), delete = `setByte(meta, emptyMetaSlot, idx)` and a nil pointer.
On the flat slot list M3 works with, that is `upd` / `del` (which act on the first slot holding the key); with
`Proofs/WordsInv.lean` the new bucket is representative again.  (Insertion into the first free slot / a new bucket is
`appendSpec` = `place`, `Proofs/DeepAppend.lean`.)
-/
set_option linter.unusedSectionVars false
namespace Proofs.StoreSpec
open Model.Words Model.Table

variable {K V : Type} [DecidableEq K]

def FirstAt (k : K) (s : Slots K V) (p : Nat) : Prop := ∀ q, q < p → ∀ x w, s[q]? = some (some (x, w)) → x ≠ k

theorem FirstAt.tail {k : K} {a : Option (K × V)} {r : Slots K V} {p : Nat} (h : FirstAt k (a :: r) (p + 1)) :
    FirstAt k r p := fun q hq x w hx => h (q + 1) (by omega) x w (by simpa using hx)

theorem first_set (k : K) (f : Slots K V → Slots K V) (x : Option (K × V)) (hnone : ∀ r, f (none :: r) = none :: f r)
    (hsome : ∀ k' v' r, f (some (k', v') :: r) = if k' = k then x :: r else some (k', v') :: f r) (old : V) :
    ∀ (s : Slots K V) (p : Nat), s[p]? = some (some (k, old)) → FirstAt k s p → f s = s.set p x := by
  intro s
  induction s using Proofs.Chains.slots_induction with
  | nil => intro p h; simp at h
  | none r ih =>
    intro p h hfirst
    cases p with
    | zero => simp at h
    | succ p => rw [hnone, List.set_cons_succ, ih p (by simpa using h) hfirst.tail]
  | some k' v' r ih =>
    intro p h hfirst
    cases p with
    | zero =>
      simp at h
      rw [hsome, if_pos h.1]
      rfl
    | succ p =>
      rw [hsome, if_neg (hfirst 0 (by omega) k' v' (by simp)), List.set_cons_succ, ih p (by simpa using h) hfirst.tail]

theorem upd_eq_set (k : K) (v old : V) : ∀ (s : Slots K V) (p : Nat), s[p]? = some (some (k, old)) → FirstAt k s p →
    upd k v s = s.set p (some (k, v)) :=
  first_set k (upd k v) _ (fun _ => rfl) (fun _ _ _ => rfl) old

theorem del_eq_set (k : K) (old : V) : ∀ (s : Slots K V) (p : Nat), s[p]? = some (some (k, old)) → FirstAt k s p →
    del k s = s.set p none :=
  first_set k (del k) _ (fun _ => rfl) (fun _ _ _ => rfl) old

theorem flat_length (c : List (BucketOf K V)) (hlen : ∀ b ∈ c, b.entries.length = 5) : (flat c).length = 5 * c.length := by
  induction c with
  | nil => rfl
  | cons a r ih =>
    have := ih fun b hb => hlen b (by simp [hb])
    have := hlen a (by simp)
    simp only [flat, List.flatMap_cons, List.length_append, List.length_cons] at *
    omega

theorem flat_split (c : List (BucketOf K V)) (j : Nat) (hlen : ∀ b ∈ c, b.entries.length = 5) (hj : j < c.length)
    (b' : BucketOf K V) :
    flat (c.set j b') = flat (c.take j) ++ (b'.entries ++ flat (c.drop (j + 1))) ∧ (flat (c.take j)).length = 5 * j := by
  constructor
  · rw [List.set_eq_take_append_cons_drop, if_pos hj]
    simp [flat]
  · rw [flat_length _ fun b hb => hlen b (List.mem_of_mem_take hb), List.length_take, Nat.min_eq_left (Nat.le_of_lt hj)]

theorem flat_set (c : List (BucketOf K V)) (j i : Nat) (b : BucketOf K V) (w : BitVec 64) (x : Option (K × V))
    (hlen : ∀ b ∈ c, b.entries.length = 5) (hb : c[j]? = some b) (hi : i < 5) :
    flat (c.set j ⟨w, b.entries.set i x⟩) = (flat c).set (5 * j + i) x := by
  obtain ⟨hj, rfl⟩ := List.getElem?_eq_some_iff.1 hb
  have h5 := hlen _ (List.getElem_mem hj)
  obtain ⟨e1, hl⟩ := flat_split c j hlen hj ⟨w, c[j].entries.set i x⟩
  have e0 := (flat_split c j hlen hj c[j]).1
  rw [List.set_getElem_self] at e0
  rw [e1, e0, List.set_append_right _ _ (by omega), hl, Nat.add_sub_cancel_left, List.set_append_left _ _ (by omega)]

theorem flat_get (c : List (BucketOf K V)) (j i : Nat) (b : BucketOf K V) (hlen : ∀ b ∈ c, b.entries.length = 5)
    (hb : c[j]? = some b) (hi : i < 5) : (flat c)[5 * j + i]? = b.entries[i]? := by
  obtain ⟨hj, rfl⟩ := List.getElem?_eq_some_iff.1 hb
  have h5 := hlen _ (List.getElem_mem hj)
  obtain ⟨e0, hl⟩ := flat_split c j hlen hj c[j]
  rw [List.set_getElem_self] at e0
  rw [e0, List.getElem?_append_right (by omega), hl, Nat.add_sub_cancel_left, List.getElem?_append_left (by omega)]

/-- **in-place update of the slot the search found is M3's `upd`**, and the bucket stays representative -/
theorem update_is_upd (hk : K → BitVec 8) (c : List (BucketOf K V)) (hrep : ∀ b ∈ c, RepB hk b) (j i : Nat) (b : BucketOf K V)
    (hb : c[j]? = some b) (hi : i < 5) (k : K) (old v : V) (hs : b.entries[i]? = some (some (k, old)))
    (hfirst : FirstAt k (flat c) (5 * j + i)) :
    flat (c.set j ⟨b.metaw, b.entries.set i (some (k, v))⟩) = upd k v (flat c) ∧
    RepB hk ⟨b.metaw, b.entries.set i (some (k, v))⟩ := by
  have hlen : ∀ b ∈ c, b.entries.length = 5 := fun b hb => (hrep b hb).1
  have hbm : b ∈ c := List.mem_of_getElem? hb
  refine ⟨?_, ?_⟩
  · rw [flat_set c j i b b.metaw _ hlen hb hi,
      upd_eq_set k v old (flat c) (5 * j + i) (by rw [flat_get c j i b hlen hb hi, hs]) hfirst]
  · exact Proofs.WordsInv.repB_update hk b (hrep b hbm) i hi k old v (by rw [List.getD_eq_getElem?_getD, hs]; rfl)

/-- **deletion from the slot the search found is M3's `del`**, and the bucket stays representative -/
theorem delete_is_del (hk : K → BitVec 8) (c : List (BucketOf K V)) (hrep : ∀ b ∈ c, RepB hk b) (j i : Nat) (b : BucketOf K V)
    (hb : c[j]? = some b) (hi : i < 5) (k : K) (old : V) (hs : b.entries[i]? = some (some (k, old)))
    (hfirst : FirstAt k (flat c) (5 * j + i)) :
    flat (c.set j ⟨Gen.setByte b.metaw Gen.emptyMetaSlot i, b.entries.set i none⟩) = del k (flat c) ∧
    RepB hk ⟨Gen.setByte b.metaw Gen.emptyMetaSlot i, b.entries.set i none⟩ := by
  have hlen : ∀ b ∈ c, b.entries.length = 5 := fun b hb => (hrep b hb).1
  have hbm : b ∈ c := List.mem_of_getElem? hb
  refine ⟨?_, ?_⟩
  · rw [flat_set c j i b _ _ hlen hb hi,
      del_eq_set k old (flat c) (5 * j + i) (by rw [flat_get c j i b hlen hb hi, hs]) hfirst]
  · exact Proofs.WordsInv.repB_delete hk b (hrep b hbm) i hi

end Proofs.StoreSpec
