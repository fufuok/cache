import CacheVerif.Proofs.DeepSimpSet
/-!
# The atomic actions of a call, and the loops of the interpreter

`actions s op` lists, in order, the atomic actions of the call `op` in state `s` as the concurrent model M5 counts
them: a call on the underlying map, a clock read or a setting access outside a closure that runs under a bucket lock,
a traversal visit, an evicted-callback invocation.  It mentions no source file: a tracing twin of either file records
exactly this list (`DeepCache.meets`, `DeepCacheOf.meets`), and a thread of M5 running the call alone takes one step per
action (`DeepTrace.solo_actions`).

The loops of the interpreter (`loopItems` with the visitor of `Range`: `loop_walk`, of `Items`: `loop_items`, of
`DeleteExpired`: `loop_sweep`; `loopKvs` with the callback loop: `loop_cbs`) are evaluated by induction over the list,
from what one round does.  A round is stated with the recording flag `b` a variable, so one lemma serves the tracing
and the plain twin, and for every world whose heap is the frame of the enclosing method, its cells in allocation order:
`h0` (for `Range`: the visitor and the clock value read; for the callback loop: `evictedItems`, `ec`, `now`), or, where
the loop fills the first cell, `[.kvs ev, C, N]` (`evictedItems`, `ec`, `now` of `DeleteExpired`) and `[.gomap es, F, N]`
(`items` of `Items`, then the closure and `now` of the `Range` it calls).  The loop body reads its captured variables at
these addresses, puts its own cells behind them and releases them when it returns: each round finds the heap the
hypothesis asks for and hands it back in that shape, which is what makes the induction go.  `w.atomic = false`: the
loop bodies run outside any bucket lock, so what they do is recorded.
-/
set_option linter.unusedSectionVars false
namespace DeepActions
open Deep Model Spec
variable {K V : Type} [DecidableEq K] [Inhabited V]

/-- the actions of `c.expiration(d)` -/
def expEvs (d dflt : Int) : List (Ev K V) :=
  (if d = Gen.DefaultExpiration then [.loadSetting "defaultExpiration"] else []) ++
  (if (if d = Gen.DefaultExpiration then dflt else d) > 0 then [.clock] else [])

attribute [deep_simp] expEvs

/-- actions of `Range` over the entries handed to its visitor -/
def rangeEvs (now : Int) (f : K → V → Bool) : List (K × Item V) → List (Ev K V)
  | [] => []
  | (k, i) :: rest =>
    if Gen.item_expiredWithNow i.e now then .visit k :: rangeEvs now f rest
    else if f k i.v then .visit k :: rangeEvs now f rest else [.visit k]

/-- actions of the traversal part of a `DeleteExpired` pass: a visit per entry, and the double-checked delete (`Compute`)
of an entry expired at `now` -/
def visitEvs (now : Int) : List (K × Item V) → List (Ev K V)
  | [] => []
  | (k, i) :: rest =>
    if Gen.item_expiredWithNow i.e now then .visit k :: .compute k :: visitEvs now rest else .visit k :: visitEvs now rest

/-- actions of `get`, the unexported lookup: the lock-free `Load`, the clock read of `expired()` on a hit, the
double-checked delete through `Compute` when the entry found is expired -/
def getEvs (s : CSt K V) (k : K) : List (Ev K V) :=
  .load k :: match s.items.get k with
    | none => []
    | some i => .clock :: if Gen.item_expired i.e s.now then [.compute k] else []

def actions (s : CSt K V) : Op K V → List (Ev K V)
  | .set k _ d => expEvs d s.dflt ++ [.store k]
  | .setDefault k _ => expEvs Gen.DefaultExpiration s.dflt ++ [.store k]
  | .setForever k _ => [.store k]
  | .get k | .getWithExpiration k => getEvs s k
  | .getWithTTL k =>
    -- `time.Until` reads the clock once more for a live entry that can expire
    getEvs s k ++ match s.items.get k with
      | some i => if !Gen.item_expired i.e s.now && i.e > 0 then [.clock] else []
      | none => []
  | .getOrSet k _ _ | .getAndSet k _ _ | .getAndRefresh k _ | .getOrCompute k _ _ | .compute k _ _
  | .getOrComputeSlow k _ _ _ | .computeSlow k _ _ _ => [.compute k]
  | .getAndDelete k | .delete k =>
    .compute k :: match s.items.get k with
      | none => []
      | some i => .loadSetting "evictedCallback" :: match s.cb with
        | some c => [.fire c k i.v]
        | none => []
  | .deleteExpired =>
    [.loadSetting "evictedCallback", .clock] ++ visitEvs s.now s.items ++
      match s.cb with
      | some c => (Model.Cache.sweep s.now true s.items (s.items, [])).2.map fun p => .fire c p.1 p.2
      | none => []
  | .range f => .clock :: rangeEvs s.now f s.items
  | .rangeNil => []
  | .items => .size :: .clock :: s.items.map fun p => .visit p.1
  | .clear => [.clear]
  | .count => [.size]
  | .defaultExpiration => [.loadSetting "defaultExpiration"]
  | .setDefaultExpiration _ => [.storeSetting "defaultExpiration"]
  | .evictedCallback => [.loadSetting "evictedCallback"]
  | .setEvictedCallback _ => [.storeSetting "evictedCallback"]
  | .tick _ => []

theorem rangeEvs_unlocked (now : Int) (f : K → V → Bool) (l : List (K × Item V)) : Ev.calledLocked ∉ rangeEvs now f l := by
  induction l with
  | nil => simp [rangeEvs]
  | cons p l ih =>
    obtain ⟨k, i⟩ := p
    unfold rangeEvs
    split
    · simp [ih]
    · split <;> simp [ih]

def isCall : Op K V → Prop
  | .tick _ => False
  | _ => True

theorem deepStep_eq (T : Twin K V) (s : CSt K V) (op : Op K V) (hop : isCall op) :
    deepStep T s op = (deepTrace T s op).map fun x => (x.1, x.2.1) := by
  cases op
  case tick δ => exact hop.elim
  all_goals
    simp only [deepStep, deepTrace, encode]
    cases runMethod T FUEL _ _ (ofSt s) with
    | none => rfl
    | some r =>
      obtain ⟨vs, w⟩ := r
      dsimp only
      cases decode _ vs w <;> rfl

theorem deepTrace_compute (T : Twin K V) (s : CSt K V) (k : K) (g : Option V → V × Bool) (d : Int) :
    deepTrace T s (.compute k g d) = deepTrace T s (.computeSlow k g d 0) := by
  have hd (vs : List (Val K V)) (w : W K V) : decode (.compute k g d) vs w = decode (.computeSlow k g d 0) vs w := by
    rcases vs with _ | ⟨v, _ | ⟨u, _ | _⟩⟩ <;> first | rfl | (cases u <;> rfl)
  simp only [deepTrace, encode, hd]

theorem deepTrace_getOrCompute (T : Twin K V) (s : CSt K V) (k : K) (f : V) (d : Int) :
    deepTrace T s (.getOrCompute k f d) = deepTrace T s (.getOrComputeSlow k f d 0) := by
  have hd (vs : List (Val K V)) (w : W K V) :
      decode (.getOrCompute k f d) vs w = decode (.getOrComputeSlow k f d 0) vs w := by
    rcases vs with _ | ⟨v, _ | ⟨u, _ | _⟩⟩ <;> first | rfl | (cases u <;> rfl)
  simp only [deepTrace, encode, hd]

theorem loop_walk (b : Bool) (call : List (Val K V) → W K V → Deep.Res K V) (now : Int) (f : K → V → Bool)
    (h0 : List (Val K V))
    (hcall : ∀ k (i : Item V) (w : W K V), w.heap = h0 → w.atomic = false → call [.key k, ofItem i] w =
      if Gen.item_expiredWithNow i.e now then some ([.bool true], { w with ev := w.ev ++ if b then [.visit k] else [] })
      else some ([.bool (f k i.v)],
        { w with visits := w.visits ++ [(k, i.v)], ev := w.ev ++ if b then [.visit k] else [] }))
    (l : List (K × Item V)) (w : W K V) (hw : w.heap = h0) (ha : w.atomic = false) :
    loopItems call l w =
      some { w with visits := w.visits ++ Model.Cache.walk now f l, ev := w.ev ++ if b then rangeEvs now f l else [] } := by
  induction l generalizing w with
  | nil => cases b <;> simp [loopItems, Model.Cache.walk, rangeEvs]
  | cons p l ih =>
    obtain ⟨k, i⟩ := p
    simp only [loopItems, hcall k i w hw ha, Model.Cache.walk, rangeEvs]
    by_cases he : Gen.item_expiredWithNow i.e now
    · simp only [he, if_true]
      rw [ih _ (by simpa using hw) (by simpa using ha)]
      cases b <;> simp
    · by_cases hf : f k i.v
      · simp only [he, hf, if_true, Bool.false_eq_true, if_false]
        rw [ih _ (by simpa using hw) (by simpa using ha)]
        cases b <;> simp
      · cases b <;> simp [he, hf]

theorem loop_sweep (b : Bool) (call : List (Val K V) → W K V → Deep.Res K V) (now : Int) (hasCb : Bool) (C N : Val K V)
    (hcall : ∀ k (i : Item V) (w : W K V) (ev : List (K × V)), w.heap = [.kvs ev, C, N] → w.atomic = false →
      call [.key k, ofItem i] w =
      some ([.bool true], { w with items := (Model.Cache.sweep now hasCb [(k, i)] (w.items, ev)).1,
                                   heap := [.kvs (Model.Cache.sweep now hasCb [(k, i)] (w.items, ev)).2, C, N],
                                   ev := w.ev ++ if b then visitEvs now [(k, i)] else [] }))
    (l : List (K × Item V)) (w : W K V) (ev : List (K × V)) (hw : w.heap = [.kvs ev, C, N]) (ha : w.atomic = false) :
    loopItems call l w = some { w with items := (Model.Cache.sweep now hasCb l (w.items, ev)).1,
                                       heap := [.kvs (Model.Cache.sweep now hasCb l (w.items, ev)).2, C, N],
                                       ev := w.ev ++ if b then visitEvs now l else [] } := by
  induction l generalizing w ev with
  | nil => cases w; simp only at hw; subst hw; cases b <;> simp [loopItems, Model.Cache.sweep, visitEvs]
  | cons p l ih =>
    obtain ⟨k, i⟩ := p
    simp only [loopItems, hcall k i w ev hw ha]
    rw [ih _ _ rfl (by simpa using ha), Proofs.Twin.sweep_cons now hasCb (k, i) l]
    by_cases he : Gen.item_expiredWithNow i.e now <;> cases b <;> simp [visitEvs, he]

theorem loop_cbs (b : Bool) (body : Val K V → W K V → Option (Option (List (Val K V)) × W K V)) (c : Nat)
    (h0 : List (Val K V))
    (hbody : ∀ k a (w : W K V), w.heap = h0 → w.atomic = false →
      body (.kv k a) w =
        some (none, { w with cbs := w.cbs ++ [(c, k, a)], ev := w.ev ++ if b then [.fire c k a] else [] }))
    (l : List (K × V)) (w : W K V) (hw : w.heap = h0) (ha : w.atomic = false) :
    loopKvs body l w = some (none, { w with cbs := w.cbs ++ l.map (fun p => (c, p.1, p.2)),
                                            ev := w.ev ++ if b then l.map (fun p => .fire c p.1 p.2) else [] }) := by
  induction l generalizing w with
  | nil => cases b <;> simp [loopKvs]
  | cons p l ih =>
    obtain ⟨k, a⟩ := p
    simp only [loopKvs, hbody k a w hw ha]
    rw [ih _ (by simpa using hw) (by simpa using ha)]
    cases b <;> simp

theorem loop_items (b : Bool) (call : List (Val K V) → W K V → Deep.Res K V) (now : Int) (F N : Val K V)
    (hcall : ∀ k (i : Item V) (w : W K V) (es : List (K × V)), w.heap = [.gomap es, F, N] → w.atomic = false →
      call [.key k, ofItem i] w =
      if Gen.item_expiredWithNow i.e now then some ([.bool true], { w with ev := w.ev ++ if b then [.visit k] else [] })
      else some ([.bool true],
        { w with heap := [.gomap (es ++ [(k, i.v)]), F, N], ev := w.ev ++ if b then [.visit k] else [] }))
    (l : List (K × Item V)) (w : W K V) (es : List (K × V)) (hw : w.heap = [.gomap es, F, N]) (ha : w.atomic = false) :
    loopItems call l w =
      some { w with heap := [.gomap (es ++ Model.Cache.walk now (fun _ _ => true) l), F, N],
                    ev := w.ev ++ if b then l.map (fun p => .visit p.1) else [] } := by
  induction l generalizing w es with
  | nil => cases w; simp only at hw; subst hw; cases b <;> simp [loopItems, Model.Cache.walk]
  | cons p l ih =>
    obtain ⟨k, i⟩ := p
    simp only [loopItems, hcall k i w es hw ha, Model.Cache.walk]
    by_cases he : Gen.item_expiredWithNow i.e now
    · simp only [he, if_true]
      rw [ih _ es (by simpa using hw) (by simpa using ha)]
      cases b <;> simp
    · simp only [he, Bool.false_eq_true, if_false, if_true]
      rw [ih _ (es ++ [(k, i.v)]) rfl (by simpa using ha)]
      cases b <;> simp

end DeepActions
