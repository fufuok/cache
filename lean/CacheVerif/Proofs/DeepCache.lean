import CacheVerif.Deep.Step
import CacheVerif.Proofs.DeepActions
import CacheVerif.Model.Cache
/-!
# The hand-written model M2 (`Model.Cache`) is the meaning of the current text of `xsync_map.go`

For every state and every operation, running the method of the *generated* syntax (`Gen.Deep.xsyncMap_*`, printed
from the working tree by `tools/go2deep` on every run) through the interpreter `Deep.Interp` yields exactly the
state, result, user-function ledger and callback ledger of `Model.Cache.step`, and a tracing twin has recorded exactly
`DeepActions.actions` (`Meets`).  Proofs are symbolic evaluation of the interpreter (`simp`) after the case splits
the method itself makes; the recording flag stays a variable, so each method is evaluated once for the plain and the
tracing twin.

`c.expiration(d)`, which other methods call, comes first: its meaning is proved once, for every world, fuel and twin over
the file's method table, and is the rewrite rule by which a caller's evaluation passes the call without looking into the
body.  The other helper, the unexported `get`, stays in the simp set: `Get`, `GetWithExpiration` and `GetWithTTL` evaluate
its body where they call it, after the case split that `get` makes (key absent, item expired, item live).
-/
namespace DeepCalls
open Deep Model Spec DeepActions
variable {K V : Type} [DecidableEq K] [Inhabited V]

/-- **`c.expiration(d)`** read from the printed body is the machine-translated leaf `Gen.expiration`, at the
clock and default of the world it is called in.

The fuel `n + 20`: the rule rewrites a call with fuel `m` when `m = n + 20` has a solution, so the constant must cover
what the body needs, 11 (with `n + 10` this proof fails), and may not exceed the fuel left at any call of `c.expiration`:
the deepest, in the closure that `Compute` hands to the map, has 41 of `FUEL = 60` left (with `n + 42` it is not rewritten
and `meets_computeSlow` fails).  Any constant from 11 to 41 will do; a change of the body, of a caller's nesting or of
`FUEL` has to keep 20 within that range. -/
theorem expiration (T : Twin K V) (hm : T.methods = Gen.Deep.xsyncMap) (n : Nat) (d : Int) (w : W K V) :
    callDecl T (n + 20) Gen.Deep.xsyncMap_expiration [] [.int d] w =
      some ([.int (Gen.expiration d w.dflt w.now)],
        { w with ev := w.ev ++ if T.trace && !w.atomic then expEvs d w.dflt else [] }) := by
  obtain ⟨items, now, dflt, cb, heap, fn, cbs, visits, ev, atomic⟩ := w
  by_cases h1 : d = Gen.DefaultExpiration <;>
    by_cases h2 : (if d = Gen.DefaultExpiration then dflt else d) > 0 <;> simp only [h1, if_true, if_false] at h2 <;>
    simp [deep_simp, hm, h1, h2, List.take_length_add_append]

attribute [deep_simp ↓] expiration

end DeepCalls

namespace DeepCache
open Deep Model Spec DeepActions
variable {K V : Type} [DecidableEq K] [Inhabited V]

-- callers see `c.expiration(d)` through `DeepCalls.expiration` only
attribute [-deep_simp] Gen.Deep.xsyncMap_expiration Gen.expiration

def twin (b : Bool) (h : AMap K (Item V) → List (K × Item V)) : Twin K V :=
  { (twinMap : Twin K V) with trace := b, handed := h }

def Meets (b : Bool) (s : CSt K V) (op : Op K V) : Prop :=
  deepTrace (twin b id) s op =
    some ((Model.Cache.step s op).1, (Model.Cache.step s op).2, if b then actions s op else [])

attribute [local deep_simp] Meets twin deepTrace twinMap actions getEvs

theorem meets_getOrComputeSlow (b : Bool) (s : CSt K V) (k : K) (f : V) (d : Int) (δ : Nat) :
    Meets b s (.getOrComputeSlow k f d δ) := by
  cases hg : s.items.get k with
  | none => simp [deep_simp, hg]
  | some i => by_cases he : Gen.item_expired i.e s.now <;> simp [deep_simp, hg, he]

theorem meets_getOrCompute (b : Bool) (s : CSt K V) (k : K) (f : V) (d : Int) : Meets b s (.getOrCompute k f d) := by
  unfold Meets
  rw [deepTrace_getOrCompute, Model.Cache.step_getOrCompute]
  exact meets_getOrComputeSlow b s k f d 0

theorem meets_computeSlow (b : Bool) (s : CSt K V) (k : K) (g : Option V → V × Bool) (d : Int) (δ : Nat) :
    Meets b s (.computeSlow k g d δ) := by
  cases hg : s.items.get k with
  | none => cases hd : (g none).2 <;> simp [deep_simp, hg, hd]
  | some i =>
    by_cases he : Gen.item_expired i.e s.now
    · cases hd : (g none).2 <;> simp [deep_simp, hg, he, hd]
    · cases hd : (g (some i.v)).2 <;> simp [deep_simp, hg, he, hd]

theorem meets_compute (b : Bool) (s : CSt K V) (k : K) (g : Option V → V × Bool) (d : Int) : Meets b s (.compute k g d) := by
  unfold Meets
  rw [deepTrace_compute, Model.Cache.step_compute]
  exact meets_computeSlow b s k g d 0

theorem meets_getAndDelete (b : Bool) (s : CSt K V) (k : K) : Meets b s (.getAndDelete k) := by
  cases hg : s.items.get k with
  | none => simp [deep_simp, hg]
  | some i =>
    cases hc : s.cb <;> by_cases he : Gen.item_expired i.e s.now <;>
      simp [deep_simp, hg, he, hc]

theorem meets_delete (b : Bool) (s : CSt K V) (k : K) : Meets b s (.delete k) := by
  cases hg : s.items.get k with
  | none => simp [deep_simp, hg]
  | some i =>
    cases hc : s.cb <;> by_cases he : Gen.item_expired i.e s.now <;>
      simp [deep_simp, hg, he, hc]

/-- `Range` when the underlying map hands the visitor the pairs `h items` (anything, for a traversal concurrent with
writers): the user's visitor is called exactly on `walk now f` of them - the unexpired ones, at the clock read when
the traversal began, in the order handed over, until it returns false - outside any lock; nothing is modified -/
theorem range_of_handed (b : Bool) (h : AMap K (Item V) → List (K × Item V)) (s : CSt K V) (f : K → V → Bool) :
    deepTrace (twin b h) s (.range f) =
      some (s, { out := .visits (Model.Cache.walk s.now f (h s.items)) },
        if b then .clock :: rangeEvs s.now f (h s.items) else []) := by
  simp [deep_simp]
  rw [loop_walk b (now := s.now) (f := f) (h0 := [Val.ufn (UFn.visitor f), Val.int s.now])]
  case hw => rfl
  case ha => rfl
  case hcall =>
    intro k i w hw ha
    cases w; simp only at hw ha; subst hw; subst ha
    by_cases he : Gen.item_expiredWithNow i.e s.now <;> simp [deep_simp, hide, he]
  simp [deep_simp]

theorem items_of_handed (b : Bool) (h : AMap K (Item V) → List (K × Item V)) (s : CSt K V) :
    deepTrace (twin b h) s .items =
      some (s, { out := .items (Model.Cache.walk s.now (fun _ _ => true) (h s.items)) },
        if b then .size :: .clock :: (h s.items).map fun p => .visit p.1 else []) := by
  simp [deep_simp]
  rw [loop_items b (now := s.now) (es := [])]
  case hw => rfl
  case ha => rfl
  case hcall =>
    intro k i w es hw ha
    cases w; simp only at hw ha; subst hw; subst ha
    by_cases he : Gen.item_expiredWithNow i.e s.now <;> simp [deep_simp, hide, he]
  simp [deep_simp]

theorem meets_deleteExpired (b : Bool) (s : CSt K V) : Meets b s .deleteExpired := by
  simp [deep_simp]
  rw [loop_sweep b (now := s.now) (hasCb := s.cb.isSome) (ev := [])]
  case hw => rfl
  case ha => rfl
  case hcall =>
    intro k i w ev hw ha
    cases w; simp only at hw ha; subst hw; subst ha
    rename_i items _ _ _ _ _ _ _  -- the eight fields of `W` left after the two substitutions; `items` is the first
    by_cases he : Gen.item_expiredWithNow i.e s.now
    · cases hg : items.get k with
      | none => simp [deep_simp, hide, he, hg, Model.Cache.sweep, Model.Cache.sweepFn, visitEvs]
      | some c =>
        by_cases he2 : Gen.item_expiredWithNow c.e s.now
        · cases s.cb <;> simp [deep_simp, hide, he, hg, he2, Model.Cache.sweep, Model.Cache.sweepFn, visitEvs]
        · simp [deep_simp, hide, he, hg, he2, Model.Cache.sweep, Model.Cache.sweepFn, visitEvs]
    · simp [deep_simp, hide, he, Model.Cache.sweep, visitEvs]
  cases hc : s.cb with
  | none => simp [deep_simp, Proofs.Twin.sweep_noCb, loopKvs]
  | some c =>
    simp [deep_simp]
    rw [loop_cbs b (c := c) (h0 := [Val.kvs (Model.Cache.sweep s.now true s.items (s.items, [])).snd, Val.ecb (some c), Val.int s.now])]
    case hw => rfl
    case ha => rfl
    case hbody =>
      intro k a w hw ha
      cases w; simp only at hw ha; subst hw; subst ha
      simp [deep_simp, hide]
    simp [deep_simp]

/-- **The hand-written model is the meaning of the text of `xsync_map.go`, and the actions of a call are those of
`DeepActions.actions`.** -/
theorem meets (b : Bool) (s : CSt K V) (op : Op K V) (hop : isCall op) : Meets b s op := by
  cases op with
  | get k | getOrSet k v d | getAndSet k v d | getAndRefresh k d =>
    cases hg : s.items.get k with
    | none => simp [deep_simp, hg]
    | some i => by_cases he : Gen.item_expired i.e s.now <;> simp [deep_simp, hg, he]
  | getWithExpiration k | getWithTTL k =>
    cases hg : s.items.get k with
    | none => simp [deep_simp, hg]
    | some i =>
      by_cases he : Gen.item_expired i.e s.now
      · simp [deep_simp, hg, he]
      · by_cases hp : i.e > 0 <;> simp [deep_simp, hg, he, hp]
  | getOrCompute k f d => exact meets_getOrCompute b s k f d
  | compute k g d => exact meets_compute b s k g d
  | getAndDelete k => exact meets_getAndDelete b s k
  | delete k => exact meets_delete b s k
  | deleteExpired => exact meets_deleteExpired b s
  | range f => exact range_of_handed b id s f
  | items => exact items_of_handed b id s
  | tick δ => exact hop.elim
  | getOrComputeSlow k f d δ => exact meets_getOrComputeSlow b s k f d δ
  | computeSlow k g d δ => exact meets_computeSlow b s k g d δ
  | set k v d | setDefault k v | setForever k v | rangeNil | clear | count | defaultExpiration | setDefaultExpiration d
  | evictedCallback | setEvictedCallback c =>
    simp [deep_simp, Gen.NoExpiration, Gen.DefaultExpiration]

theorem deep_step (s : CSt K V) (op : Op K V) : deepStep twinMap s op = some (Model.Cache.step s op) := by
  by_cases hop : isCall op
  · show deepStep (twin false id) s op = _
    rw [deepStep_eq _ s op hop, meets false s op hop]; rfl
  · cases op
    case tick δ => rfl
    all_goals exact absurd trivial hop

theorem deep_run (s : CSt K V) (ops : List (Op K V)) : deepRun twinMap s ops = some (Model.Cache.run s ops) := by
  induction ops generalizing s with
  | nil => rfl
  | cons op ops ih => simp [deepRun, deep_step, ih, Model.Cache.run]

theorem deep_range_handed (s : CSt K V) (f : K → V → Bool) (π : List (K × Item V)) :
    deepStep (twinMapHanded π) s (.range f) = some (s, { out := .visits (Model.Cache.walk s.now f π) }) := by
  show deepStep (twin false fun _ => π) s (.range f) = _
  rw [deepStep_eq _ s (.range f) trivial, range_of_handed]; rfl

theorem deep_items_handed (s : CSt K V) (π : List (K × Item V)) :
    deepStep (twinMapHanded π) s .items = some (s, { out := .items (Model.Cache.walk s.now (fun _ _ => true) π) }) := by
  show deepStep (twin false fun _ => π) s .items = _
  rw [deepStep_eq _ s .items trivial, items_of_handed]; rfl

end DeepCache
