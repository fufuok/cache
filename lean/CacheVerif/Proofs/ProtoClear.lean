import CacheVerif.Proofs.ProtoLin
/-!
# M4a: every completed `Clear` empties the map at an instant inside its interval

`Clear` is `resize(table, mapClearHint)`.  It may lose the CAS on the `resizing` flag to a grow or a shrink; it then
waits and **tries again** (the repair of F4; without it the call returns without clearing).  For every schedule:
between the moment a thread enters `Clear` and the moment that call returns, the thread itself executes the publish step
of a `Clear`, and in the state right after that step the current table is empty.  So no entry stored before the call
began survives it (what is there afterwards was committed after that instant).
-/
namespace Proofs.ProtoClear
open Spec Model.Proto Proofs.ProtoLocks Proofs.ProtoData Proofs.ProtoLin

variable {K V : Type} [DecidableEq K]

/-- pcs a `Clear` request is never at before it has published -/
def latePc : Pc → Bool
  | .rzMuLock | .rzClearFlag | .rzBroadcast | .rzMuUnlock | .rzFastSum | .rzDecideSum => true
  | _ => false

/-- inside the resize request of a `Clear`, not past the publish step -/
def Pre (l : L K V) : Prop := l.hint = .clear ∧ .clDone ∈ l.conts ∧ latePc l.pc = false

theorem popCont_pre (l : L K V) (hw : WF l) (hpc : l.pc = .wfMuUnlock) (h : Pre l) : Pre (popCont l) := by
  obtain ⟨hh, hc, -⟩ := h
  rcases conts_cases hw (Or.inr (by rw [hpc]; rfl)) with e | e | e | e | e | e <;> rw [e] at hc <;>
    simp at hc
  · have := hw.cshape.2.2 (by rw [hpc]; rfl)
    rw [e] at this; simp at this
  · simp [popCont, e, hh, Pre, latePc]

/-- `Pre` confines the thread to the pcs of `resize` before the publish step and to `waitForResize`, the stack being
`[clDone]` or `[rzAfterWait, clDone]`.  With the hint known, each of these steps leaves hint and stack alone, or pushes
`rzAfterWait` (the lost CAS), or pops it (`popCont_pre`). -/
theorem pre_step {p : Params K} {t : Tid} {g g' : G K V} {l l' : L K V} {c : Choice K V}
    (hw : WF l) (h : Pre l) (hne : l.pc ≠ .rzPublish) (hs : tstep p t g l c = some (g', l')) : Pre l' := by
  have hpop := fun hpc => popCont_pre l hw hpc h
  obtain ⟨hh, hc, hl⟩ := h
  have hsub := sub_of_mem_conts hw hc
  cases hpc : l.pc <;>
    simp only [hpc, inRz, inWf, latePc, ne_eq, not_true_eq_false, or_self, reduceCtorEq] at hsub hl hne <;>
    simp only [tstep, hpc, hh, reduceCtorEq, if_false] at hs <;> (repeat' split at hs) <;> cases hs <;>
    first | exact ⟨rfl, hc, rfl⟩ | exact ⟨hh, List.mem_cons_of_mem _ hc, rfl⟩ | exact hpop hpc

def Stage (l : L K V) : Prop := l.pc = .clTable ∨ Pre l

theorem stage_step {p : Params K} (hmin : 0 < p.minLen) {u t : Tid} {s s' : St K V} {c : Choice K V}
    (hreach : Reach p s) (hst : Stage (s.l u)) (hs : step p s t c = some s') :
    Stage (s'.l u) ∨ ∀ k, absGet s'.g k = none := by
  obtain ⟨g', l', hts, rfl⟩ := step_cases hs
  dsimp only
  by_cases htu : u = t
  · subst htu
    rw [if_pos rfl]
    rcases hst with hpc | hpre
    · left; right
      simp only [tstep, hpc, Option.some.injEq, Prod.mk.injEq] at hts
      obtain ⟨-, rfl⟩ := hts
      simp [Pre, callResize, latePc]
    · by_cases hpc : (s.l u).pc = .rzPublish
      · exact Or.inr (clear_publish_empties p hmin s hreach u c g' l' hpc hpre.1 hts)
      · exact Or.inl (Or.inr (pre_step (wf_reach hreach u) hpre hpc hts))
  · rw [if_neg htu]; exact Or.inl hst

/-- **every completed `Clear` takes effect inside its interval** (every schedule; the call may lose the CAS to other
resizes any number of times): if thread `u` is entering `Clear` in `s0` and is at its return point in `s1`, one of the
states gone through has an empty current table -/
theorem clear_takes_effect (p : Params K) (hmin : 0 < p.minLen) (u : Tid) (pre mid : List (Tid × Choice K V))
    (s0 s1 : St K V) (h0 : run p (init p) pre = some s0) (h1 : run p s0 mid = some s1)
    (hstart : (s0.l u).pc = .clTable) (hret : (s1.l u).pc = .ret) :
    ∃ σ ∈ trace p s0 mid, ∀ k, absGet σ.g k = none := by
  have hreach : Reach p s0 := ⟨pre, h0⟩
  -- along the run: `u` is still in its request, or one of the steps taken has emptied the current table
  have h := hist_run (fun H s => Stage (s.l u) ∨ ∃ e ∈ H, ∀ k, absGet e.post.g k = none)
    (fun H s t c s' hr hJ hs => hJ.elim
      (fun hst => (stage_step hmin hr hst hs).imp_right fun h => ⟨⟨s, t, c, s'⟩, by simp, h⟩)
      (fun ⟨e, he, h⟩ => Or.inr ⟨e, List.mem_append_left _ he, h⟩))
    [] hreach (Or.inl (Or.inl hstart)) h1
  rcases h with h | ⟨e, he, h⟩
  · exfalso
    rcases h with h | ⟨-, hc, -⟩
    · rw [hret] at h; cases h
    · have hw := wf_reach (reach_run hreach h1) u
      have := hw.cshape.1 (by rw [hret]; rfl) (by rw [hret]; rfl)
      rw [this] at hc; cases hc
  · exact ⟨e.post, List.mem_cons_of_mem _ (List.mem_map.mpr ⟨e, by simpa using he, rfl⟩), h⟩

end Proofs.ProtoClear
