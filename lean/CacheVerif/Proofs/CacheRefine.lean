import CacheVerif.Model.Cache
import CacheVerif.Spec.TTL
import CacheVerif.Proofs.AMapFilter
import CacheVerif.Proofs.LeafCache
/-!
# M2 (`Model.Cache`) refines `Spec.TTL`

`abs` drops the entries that are expired at the state's clock.  Every step of the model is a step of the
spec on the abstract state with the same logical result and the same user-function invocations (`step_sim`).

The model's calls are `Compute`s on the stored items, so a step writes or erases one key (`AMap.compute_eq`).  The
abstract state follows a write of a live item (`sim_store`), a write of an expired one and an erase (`sim_store_dead`,
`sim_erase`: both erase the key), and does not see an expired item go or an item being written back
(`sim_erase_dead`, `sim_restore`).  Per call, what remains is to say which of these its closure does in each of the three cases
of `Sim.get_cases`: key absent, expired item, live item.
-/
set_option linter.unusedSectionVars false
namespace Proofs.CacheRefine
open Spec Spec.AMap Model Model.Cache Proofs.LeafCache

variable {K V : Type} [DecidableEq K] [Inhabited V]

def liveAt (now : Int) (i : Item V) : Bool := !TTL.expired i.e now

def abs (s : St K V) : TTL.St K V :=
  { live := vfilter s.items (liveAt s.now), now := s.now, dflt := s.dflt, cb := s.cb }

/-- `epos`: `GetWithExpiration` reports `0` for an instant that is not positive, the spec reports the stored instant, and the
two agree because no stored instant is negative (`ss_getWithExpiration`).  A stored instant is `0` ("never") or `now + d`
with `0 < d` (`TTL.expiration`), so `epos` is kept as long as the clock is not negative: `now0` (`expiration_nonneg`).  The
clock is `time.Now().UnixNano()`, so `0 ≤ now`, which the top theorems assume of the initial clock, says "after 1970". -/
structure WF (s : St K V) : Prop where
  nodup : AMap.WF s.items
  epos : ∀ p ∈ s.items, 0 ≤ p.2.e
  now0 : 0 ≤ s.now

/-- what a call reports about the logical content (`Count` is a physical quantity, see C08) -/
def logical : Out K V → Out K V
  | .count _ => .unit
  | o => o

theorem expired_eq (s : St K V) (i : Item V) : Cache.expired s i = TTL.expired i.e s.now :=
  item_expired_eq i.e s.now

theorem expiration_eq (s : St K V) (d : Int) : Cache.expiration s d = TTL.expiration d s.dflt s.now :=
  LeafCache.expiration_eq d s.dflt s.now

def lget (s : St K V) (k : K) : Option (Item V) :=
  match s.items.get k with
  | some i => if TTL.expired i.e s.now then none else some i
  | none => none

theorem lget_eq (s : St K V) (k : K) : lget s k = (s.items.get k).filter (liveAt s.now) := by
  unfold lget
  cases s.items.get k with
  | none => rfl
  | some i => cases he : TTL.expired i.e s.now <;> simp [Option.filter_some, liveAt, he]

theorem lget_set (s : St K V) (k k' : K) (i : Item V) :
    lget { s with items := s.items.set k i } k' =
      if k = k' then (if TTL.expired i.e s.now then none else some i) else lget s k' := by
  simp only [lget, get_set]
  by_cases hk : k = k' <;> simp [hk]

theorem lget_erase (s : St K V) (k k' : K) :
    lget { s with items := s.items.erase k } k' = if k = k' then none else lget s k' := by
  simp only [lget, get_erase]
  by_cases hk : k = k' <;> simp [hk]

theorem abs_get (s : St K V) (h : WF s) (k : K) : (abs s).live.get k = lget s k :=
  (get_vfilter _ h.nodup _ k).trans (lget_eq s k).symm

theorem WF_set (s : St K V) (h : WF s) (k : K) (i : Item V) (hi : 0 ≤ i.e) : WF { s with items := s.items.set k i } := by
  refine ⟨AMap.WF_set _ _ _ h.nodup, ?_, h.now0⟩
  intro p hp
  rcases (mem_set _ _ _ _).mp hp with rfl | ⟨hp, _⟩
  · exact hi
  · exact h.epos p hp

theorem WF_erase (s : St K V) (h : WF s) (k : K) : WF { s with items := s.items.erase k } :=
  ⟨AMap.WF_erase _ _ h.nodup, fun p hp => h.epos p ((mem_erase _ _ _).mp hp).1, h.now0⟩

/-! On `abs` itself, with equality.  The refinement does not go through these: a call that writes an item back moves it to
the front of the list (`sim_restore`), so the abstract state is followed up to order only, by the `Sim` forms of the same
facts (`sim_fresh`, `sim_erase`, `sim_erase_dead`). -/

theorem abs_set_fresh (s : St K V) (k : K) (v : V) (d : Int) :
    abs { s with items := s.items.set k ⟨v, TTL.expiration d s.dflt s.now⟩ } = TTL.storeItem (abs s) k v d := by
  simp [abs, TTL.storeItem, vfilter_set, liveAt, expired_expiration]

theorem abs_erase (s : St K V) (k : K) :
    abs { s with items := s.items.erase k } = { abs s with live := (abs s).live.erase k } := by
  simp only [abs, vfilter_erase]

theorem abs_erase_dead (s : St K V) (h : WF s) (k : K)
    (hd : ∀ i, s.items.get k = some i → TTL.expired i.e s.now = true) :
    abs { s with items := s.items.erase k } = abs s := by
  rw [abs_erase, erase_of_get_none]
  rw [abs_get s h, lget_eq, Option.filter_eq_none_iff]
  intro i hg
  simp [liveAt, hd i hg]

/-! ## Simulation up to extensional equality

The order of an association list is not observable through the API (Go leaves `Range` order unspecified),
so the abstract state is related to the model state through `get` only. -/

structure Sim (s : St K V) (a : TTL.St K V) : Prop where
  wf : WF s
  awf : AMap.WF a.live
  now : a.now = s.now
  dflt : a.dflt = s.dflt
  cb : a.cb = s.cb
  get : ∀ k, a.live.get k = lget s k

theorem sim_abs (s : St K V) (h : WF s) : Sim s (abs s) :=
  ⟨h, WF_vfilter _ _ h.nodup, rfl, rfl, rfl, abs_get s h⟩

section sim

theorem Sim.get_cases {s : St K V} {a : TTL.St K V} (h : Sim s a) (k : K) :
    (s.items.get k = none ∧ a.live.get k = none) ∨
    (∃ i, s.items.get k = some i ∧ TTL.expired i.e s.now = true ∧ a.live.get k = none) ∨
    (∃ i, s.items.get k = some i ∧ TTL.expired i.e s.now = false ∧ a.live.get k = some i) := by
  rw [h.get k, lget]
  cases s.items.get k with
  | none => exact .inl ⟨rfl, rfl⟩
  | some i => cases he : TTL.expired i.e s.now <;> simp

theorem Sim.get_of_some {s : St K V} {a : TTL.St K V} (h : Sim s a) {k : K} {i : Item V} (hg : s.items.get k = some i) :
    a.live.get k = if TTL.expired i.e s.now then none else some i := by
  rw [h.get k, lget, hg]

theorem Sim.get_of_none {s : St K V} {a : TTL.St K V} (h : Sim s a) {k : K} (hg : s.items.get k = none) :
    a.live.get k = none := by
  rw [h.get k, lget, hg]

theorem Sim.live_some {s : St K V} {a : TTL.St K V} (h : Sim s a) {k : K} {i : Item V} (hl : a.live.get k = some i) :
    s.items.get k = some i ∧ TTL.expired i.e s.now = false :=
  by simpa [lget_eq, liveAt] using (h.get k).symm.trans hl

theorem Sim.live_epos {s : St K V} {a : TTL.St K V} (h : Sim s a) {k : K} {i : Item V} (hl : a.live.get k = some i) :
    0 ≤ i.e :=
  h.wf.epos (k, i) (mem_of_get _ _ _ (h.live_some hl).1)

variable {s : St K V} {a : TTL.St K V} (h : Sim s a)
include h

theorem sim_store (k : K) (i : Item V) (he : 0 ≤ i.e) (hl : TTL.expired i.e s.now = false) :
    Sim { s with items := s.items.set k i } { a with live := a.live.set k i } := by
  refine ⟨WF_set s h.wf k i he, AMap.WF_set _ _ _ h.awf, h.now, h.dflt, h.cb, fun k' => ?_⟩
  rw [lget_set, get_set, h.get k', hl]; rfl

theorem sim_store_dead (k : K) (i : Item V) (hl : TTL.expired i.e s.now = true) :
    Sim { s with items := s.items.set k i } { a with live := a.live.erase k } := by
  have he : 0 ≤ i.e := by simp [TTL.expired] at hl; omega
  refine ⟨WF_set s h.wf k i he, AMap.WF_erase _ _ h.awf, h.now, h.dflt, h.cb, fun k' => ?_⟩
  rw [lget_set, get_erase, h.get k', hl]; rfl

theorem sim_fresh (k : K) (v : V) (d : Int) :
    Sim { s with items := s.items.set k ⟨v, TTL.expiration d s.dflt s.now⟩ } (TTL.storeItem a k v d) := by
  have e : TTL.expiration d a.dflt a.now = TTL.expiration d s.dflt s.now := by rw [h.now, h.dflt]
  rw [TTL.storeItem, e]
  exact sim_store h k ⟨v, _⟩ (expiration_nonneg _ _ _ h.wf.now0) (expired_expiration _ _ _)

theorem sim_erase (k : K) : Sim { s with items := s.items.erase k } { a with live := a.live.erase k } := by
  refine ⟨WF_erase s h.wf k, AMap.WF_erase _ _ h.awf, h.now, h.dflt, h.cb, fun k' => ?_⟩
  rw [lget_erase, get_erase, h.get k']

theorem sim_erase_dead (k : K) (hd : a.live.get k = none) : Sim { s with items := s.items.erase k } a := by
  have := sim_erase h k
  rwa [erase_of_get_none a.live k hd] at this

theorem sim_restore (k : K) (i : Item V) (hg : s.items.get k = some i) : Sim { s with items := s.items.set k i } a := by
  refine ⟨WF_set s h.wf k i (h.wf.epos (k, i) (mem_of_get _ _ _ hg)), h.awf, h.now, h.dflt, h.cb, fun k' => ?_⟩
  rw [h.get k']
  simp only [lget, get_set_of_get hg k']

end sim

/-- relation between what the model reports and what the spec reports; `live` = abstract content before
the call.  Enumeration order is unspecified: for `Range`/`Items` the model's answer must be the spec's
answer for *some* enumeration order of the live entries. -/
def OutRel (live : AMap K (Item V)) (op : Op K V) (m sp : Out K V) : Prop :=
  match op with
  | .range f => ∃ π : List (K × Item V), π.Perm live ∧ m = .visits (TTL.walk f π)
  | .items => ∃ π : List (K × Item V), π.Perm live ∧ m = .items (π.map fun p => (p.1, p.2.v))
  | _ => logical m = sp

def StepSim (s : St K V) (a : TTL.St K V) (op : Op K V) : Prop :=
  Sim (step s op).1 (TTL.step a op).1 ∧ OutRel a.live op (step s op).2.out (TTL.step a op).2.1 ∧
  (step s op).2.fn = (TTL.step a op).2.2

theorem getAndDelete_fst (s : St K V) (k : K) : (Cache.getAndDelete s k).1 = { s with items := s.items.erase k } := by
  simp only [Cache.getAndDelete, compute_delete]
  cases s.items.get k <;> rfl

theorem walk_eq (now : Int) (f : K → V → Bool) (l : List (K × Item V)) :
    Cache.walk now f l = TTL.walk f (vfilter l (liveAt now)) := by
  induction l with
  | nil => rfl
  | cons p rest ih =>
    obtain ⟨k, i⟩ := p
    unfold Cache.walk
    rw [vfilter_cons, item_expiredWithNow_eq]
    cases he : TTL.expired i.e now <;> simp [liveAt, he, TTL.walk, ih]

theorem walk_true (f : K → V → Bool) (l : List (K × Item V)) (hf : ∀ p ∈ l, f p.1 p.2.v = true) :
    TTL.walk f l = l.map fun p => (p.1, p.2.v) := by
  induction l with
  | nil => rfl
  | cons p rest ih =>
    rw [TTL.walk, if_pos (hf p List.mem_cons_self), ih fun q hq => hf q (List.mem_cons_of_mem _ hq)]; rfl

section ops
variable {s : St K V} {a : TTL.St K V} (h : Sim s a)
include h

theorem set_sim (k : K) (v : V) (d : Int) : Sim (Cache.set s k v d) (TTL.storeItem a k v d) := by
  unfold Cache.set AMap.store
  rw [expiration_eq]
  exact sim_fresh h k v d

theorem get_spec (k : K) : ∃ s', Cache.get s k = (s', a.live.get k) ∧ Sim s' a := by
  unfold Cache.get
  rw [load_eq]
  rcases h.get_cases k with ⟨hg, hl⟩ | ⟨i, hg, he, hl⟩ | ⟨i, hg, he, hl⟩ <;>
    simp only [Option.getD_some, Option.isSome_some, expired_eq, compute_eq, *]
  · exact ⟨s, rfl, h⟩
  · exact ⟨_, rfl, sim_erase_dead h k hl⟩
  · exact ⟨s, rfl, h⟩

theorem ss_get (k : K) : StepSim s a (.get k) := by
  obtain ⟨s', hg, h1⟩ := get_spec h k
  unfold StepSim OutRel
  simp only [step, TTL.step, hg]
  cases a.live.get k <;> exact ⟨h1, rfl, rfl⟩

theorem ss_getWithExpiration (k : K) : StepSim s a (.getWithExpiration k) := by
  obtain ⟨s', hg, h1⟩ := get_spec h k
  unfold StepSim OutRel
  simp only [step, TTL.step, hg]
  cases hl : a.live.get k with
  | none => exact ⟨h1, rfl, rfl⟩
  | some i =>
    have : (if i.e > 0 then i.e else 0) = i.e := by have := h.live_epos hl; split <;> omega
    exact ⟨h1, by simp only [logical, this], rfl⟩

theorem ss_getWithTTL (k : K) : StepSim s a (.getWithTTL k) := by
  obtain ⟨s', hg, h1⟩ := get_spec h k
  unfold StepSim OutRel
  simp only [step, TTL.step, hg]
  cases a.live.get k with
  | none => exact ⟨h1, rfl, rfl⟩
  | some i => exact ⟨h1, by simp only [logical, h.now, NoExpiration_eq], rfl⟩

/-! The calls that are one `Compute`.  In each case of `Sim.get_cases`, `simp` computes both steps; that closes the conjuncts
about the answer and the user function and leaves `Sim` of the successor states: one goal per case, in the order absent,
expired, live. -/

theorem ss_getAndSet (k : K) (v : V) (d : Int) : StepSim s a (.getAndSet k v d) := by
  unfold StepSim OutRel
  rcases h.get_cases k with ⟨hg, hl⟩ | ⟨i, hg, he, hl⟩ | ⟨i, hg, he, hl⟩ <;>
    simp [step, TTL.step, compute_eq, expired_eq, expiration_eq, logical, *]
  all_goals exact sim_fresh h k v d

theorem ss_getAndRefresh (k : K) (d : Int) : StepSim s a (.getAndRefresh k d) := by
  unfold StepSim OutRel
  rcases h.get_cases k with ⟨hg, hl⟩ | ⟨i, hg, he, hl⟩ | ⟨i, hg, he, hl⟩ <;>
    simp [step, TTL.step, compute_eq, refreshFn, expired_eq, expiration_eq, logical, *]
  · exact sim_erase_dead h k hl
  · exact sim_erase_dead h k hl
  · exact sim_fresh h k i.v d

theorem liveOld_get (k : K) : liveOld s (s.items.get k) = (a.live.get k).map (·.v) := by
  rcases h.get_cases k with ⟨hg, hl⟩ | ⟨i, hg, he, hl⟩ | ⟨i, hg, he, hl⟩ <;> simp [liveOld, expired_eq, *]

theorem ss_compute (k : K) (g : Option V → V × Bool) (d : Int) : StepSim s a (.compute k g d) := by
  unfold StepSim OutRel
  simp only [step, TTL.step, compute_eq, computeFn, liveOld_get h k, expiration_eq]
  cases hl : a.live.get k with
  | none =>
    by_cases hd : (g none).2 = true <;> simp [hd, logical]
    · exact sim_erase_dead h k hl
    · exact sim_fresh h k _ d
  | some i =>
    by_cases hd : (g (some i.v)).2 = true <;> simp [hd, logical]
    · exact sim_erase h k
    · exact sim_fresh h k _ d

theorem ss_getAndDelete (k : K) : StepSim s a (.getAndDelete k) := by
  unfold StepSim OutRel
  rcases h.get_cases k with ⟨hg, hl⟩ | ⟨i, hg, he, hl⟩ | ⟨i, hg, he, hl⟩ <;>
    simp [step, TTL.step, Cache.getAndDelete, compute_eq, expired_eq, logical, *]
  · exact sim_erase_dead h k hl
  · exact sim_erase_dead h k hl
  · exact sim_erase h k

theorem ss_delete (k : K) : StepSim s a (.delete k) := by
  refine ⟨?_, rfl, ?_⟩
  · show Sim (Cache.getAndDelete s k).1 _
    rw [getAndDelete_fst]
    exact sim_erase h k
  · show (Cache.getAndDelete s k).2.fn = []
    unfold Cache.getAndDelete
    cases s.items.get k <;> rfl

theorem sim_sweepFn (k : K) : Sim { s with items := (s.items.compute k (sweepFn s.now)).1 } a := by
  rw [compute_eq]
  rcases h.get_cases k with ⟨hg, hl⟩ | ⟨i, hg, he, hl⟩ | ⟨i, hg, he, hl⟩ <;> simp [sweepFn, item_expiredWithNow_eq, *]
  · exact sim_erase_dead h k hl
  · exact sim_erase_dead h k hl
  · exact sim_restore h k i hg

theorem live_perm : (vfilter s.items (liveAt s.now)).Perm a.live :=
  perm_of_get_eq _ _ (WF_vfilter _ _ h.wf.nodup) h.awf fun k => (abs_get s h.wf k).trans (h.get k).symm

/-- an item that was expired stays expired (`expired_mono`); a live one is tested against the new clock on both sides -/
theorem tick_sim (δ : Nat) : Sim ({ s with now := s.now + δ } : St K V) (TTL.tick a δ) := by
  refine ⟨⟨h.wf.nodup, h.wf.epos, ?_⟩, WF_filter a.live _ h.awf, by rw [TTL.tick, h.now], h.dflt, h.cb, fun k => ?_⟩
  · have := h.wf.now0; show 0 ≤ s.now + δ; omega
  · show (vfilter a.live (liveAt (a.now + δ))).get k = _
    rw [get_vfilter _ h.awf, h.now, lget_eq]
    rcases h.get_cases k with ⟨hg, hl⟩ | ⟨i, hg, he, hl⟩ | ⟨i, hg, he, hl⟩ <;> rw [hg, hl]
    exact (Option.filter_some_neg (by simp [liveAt, expired_mono i.e s.now (s.now + δ) (by omega) he])).symm

variable (s a) in
theorem ss_tick (δ : Nat) : StepSim s a (.tick δ) := ⟨tick_sim h δ, rfl, rfl⟩

variable (s a) in
theorem ss_getOrComputeSlow (k : K) (f : V) (d : Int) (δ : Nat) : StepSim s a (.getOrComputeSlow k f d δ) := by
  have h1 := tick_sim h δ
  unfold StepSim OutRel
  rcases h.get_cases k with ⟨hg, hl⟩ | ⟨i, hg, he, hl⟩ | ⟨i, hg, he, hl⟩ <;>
    simp [step, TTL.step, compute_eq, expired_eq, expiration_eq, logical, *]
  · exact sim_fresh h1 k f d
  · exact sim_fresh h1 k f d
  · exact sim_restore h k i hg

variable (s a) in
theorem ss_computeSlow (k : K) (g : Option V → V × Bool) (d : Int) (δ : Nat) : StepSim s a (.computeSlow k g d δ) := by
  have h1 := tick_sim h δ
  unfold StepSim OutRel
  simp only [step, TTL.step, compute_eq, liveOld_get h k, expiration_eq]
  by_cases hd : (g ((a.live.get k).map (·.v))).2 = true <;> simp [hd, logical]
  · exact sim_erase h1 k
  · exact sim_fresh h1 k _ d

end ops

theorem sweep_sim (s : St K V) {a : TTL.St K V} (hasCb : Bool) (snap : List (K × Item V)) (acc : AMap K (Item V) × List (K × V))
    (h : Sim { s with items := acc.1 } a) : Sim { s with items := (sweep s.now hasCb snap acc).1 } a := by
  induction snap generalizing acc with
  | nil => exact h
  | cons p rest ih =>
    unfold sweep
    split
    · exact ih _ (sim_sweepFn h p.1)
    · exact ih _ h

theorem step_sim {s : St K V} {a : TTL.St K V} (h : Sim s a) (op : Op K V) : StepSim s a op := by
  cases op with
  | set k v d => exact ⟨set_sim h k v d, rfl, rfl⟩
  | setDefault k v => exact ⟨set_sim h k v Gen.DefaultExpiration, rfl, rfl⟩
  | setForever k v => exact ⟨set_sim h k v Gen.NoExpiration, rfl, rfl⟩
  | get k => exact ss_get h k
  | getWithExpiration k => exact ss_getWithExpiration h k
  | getWithTTL k => exact ss_getWithTTL h k
  | getAndSet k v d => exact ss_getAndSet h k v d
  | getAndRefresh k d => exact ss_getAndRefresh h k d
  | getOrSet k v d | getOrCompute k v d =>
    unfold StepSim OutRel
    rcases h.get_cases k with ⟨hg, hl⟩ | ⟨i, hg, he, hl⟩ | ⟨i, hg, he, hl⟩ <;>
      simp [step, TTL.step, compute_eq, getOrSetFn, expired_eq, expiration_eq, logical, *]
    · exact sim_fresh h k v d
    · exact sim_fresh h k v d
    · exact sim_restore h k i hg
  | compute k g d => exact ss_compute h k g d
  | getAndDelete k => exact ss_getAndDelete h k
  | delete k => exact ss_delete h k
  | deleteExpired => exact ⟨sweep_sim s s.cb.isSome s.items (s.items, []) h, rfl, rfl⟩
  | range f => exact ⟨h, ⟨_, live_perm h, congrArg Out.visits (walk_eq s.now f s.items)⟩, rfl⟩
  | rangeNil => exact ⟨h, rfl, rfl⟩
  | items => exact ⟨h, ⟨_, live_perm h, by simp only [step, walk_eq, walk_true (fun _ _ => true) _ fun _ _ => rfl]⟩, rfl⟩
  | clear =>
    exact ⟨⟨⟨AMap.WF_nil, (fun _ hp => nomatch hp), h.wf.now0⟩, AMap.WF_nil, h.now, h.dflt, h.cb, fun _ => rfl⟩, rfl, rfl⟩
  | count => exact ⟨h, rfl, rfl⟩
  | defaultExpiration => exact ⟨h, by simp [OutRel, step, TTL.step, logical, h.dflt], rfl⟩
  | setDefaultExpiration d => exact ⟨⟨⟨h.wf.nodup, h.wf.epos, h.wf.now0⟩, h.awf, h.now, rfl, h.cb, h.get⟩, rfl, rfl⟩
  | evictedCallback => exact ⟨h, by simp [OutRel, step, TTL.step, logical, h.cb], rfl⟩
  | setEvictedCallback c => exact ⟨⟨⟨h.wf.nodup, h.wf.epos, h.wf.now0⟩, h.awf, h.now, h.dflt, rfl, h.get⟩, rfl, rfl⟩
  | tick δ => exact ss_tick s a h δ
  | getOrComputeSlow k f d δ => exact ss_getOrComputeSlow s a h k f d δ
  | computeSlow k g d δ => exact ss_computeSlow s a h k g d δ

theorem sim_init (dflt : Int) (cb : Option Nat) (now : Int) (h0 : 0 ≤ now) :
    Sim (Cache.init (K := K) (V := V) dflt cb now) (TTL.init dflt cb now) :=
  ⟨⟨AMap.WF_nil, (fun _ hp => nomatch hp), h0⟩, AMap.WF_nil, rfl, rfl, rfl, fun _ => rfl⟩

/-- what each public constructor hands to `newXsyncMap`; of two `WithDefaultExpiration` the later wins -/
theorem construct_eq_newXsyncMap (c : Ctor) (now : Int) :
    Cache.construct (K := K) (V := V) c now =
      match c with
      | .newOpts d i cb m =>
        newXsyncMap (some ⟨d.getD Gen.NoExpiration, i.getD Gen.DefaultCleanupInterval, m.getD Gen.DefaultMinCapacity,
          cb.isSome⟩) cb now
      | .newDefault d i cb => newXsyncMap (some ⟨d, i, 0, cb.isSome⟩) cb now
      | .newOptsOver _ d i cb m =>
        newXsyncMap (some ⟨d, i.getD Gen.DefaultCleanupInterval, m.getD Gen.DefaultMinCapacity, cb.isSome⟩) cb now := by
  cases c with
  | newOpts d i cb m => cases d <;> cases i <;> cases cb <;> cases m <;> rfl
  | newDefault d i cb => rfl
  | newOptsOver b d i cb m => cases i <;> cases cb <;> cases m <;> rfl

theorem newXsyncMap_fst (cfg : Gen.Config) (cb : Option Nat) (now : Int) (hcb : cfg.hasCallback = cb.isSome) :
    (newXsyncMap (K := K) (V := V) (some cfg) cb now).1 =
      Cache.init (if cfg.defaultExpiration < 1 then TTL.NoExpiration else cfg.defaultExpiration) cb now := by
  simp only [newXsyncMap, configDefault_spec, Gen.newXsyncMap_dflt, Gen.newXsyncMap_hasCb, hcb, Cache.init]
  cases cb <;> rfl

/-- normalisation only lifts negative intervals to 0, so the interval handed over decides whether the janitor is started -/
theorem newXsyncMap_snd (cfg : Gen.Config) (cb : Option Nat) (now : Int) :
    (newXsyncMap (K := K) (V := V) (some cfg) cb now).2 = decide (cfg.cleanupInterval > 0) := by
  simp only [newXsyncMap, configDefault_spec, Gen.newXsyncMap_janitor]
  split <;> simp <;> omega

end Proofs.CacheRefine
