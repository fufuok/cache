import CacheVerif.Proofs.CacheRefine
/-! `Model.Cache.walk` (over any list of handed pairs) is, by `CacheRefine.walk_eq`, the spec's walk over the unexpired
pairs, and that walk is a prefix of them. -/
namespace Proofs.CacheWalk
open Spec Spec.AMap Model Proofs.LeafCache Proofs.CacheRefine
variable {K V : Type} [DecidableEq K] [Inhabited V]

omit [DecidableEq K] [Inhabited V] in
theorem walk_prefix (f : K → V → Bool) (l : List (K × Item V)) : TTL.walk f l <+: l.map fun p => (p.1, p.2.v) := by
  induction l with
  | nil => exact List.prefix_refl _
  | cons p l ih =>
    unfold TTL.walk
    split
    · exact List.cons_prefix_cons.mpr ⟨rfl, ih⟩
    · exact List.cons_prefix_cons.mpr ⟨rfl, List.nil_prefix⟩

omit [DecidableEq K] [Inhabited V] in
theorem walk_stops (f : K → V → Bool) (l : List (K × Item V)) :
    ∀ x ∈ (TTL.walk f l).dropLast, f x.1 x.2 = true := by
  induction l with
  | nil => nofun
  | cons p rest ih =>
    unfold TTL.walk
    split
    · rename_i hf
      cases hw : TTL.walk f rest with
      | nil => nofun
      | cons a b =>
        rw [List.dropLast_cons_cons]
        exact fun x hx => (List.mem_cons.mp hx).elim (fun e => e ▸ hf) fun hx => ih x (hw ▸ hx)
    · nofun

theorem mem_walk (now : Int) (f : K → V → Bool) (l : List (K × Item V)) (k : K) (v : V)
    (h : (k, v) ∈ Cache.walk now f l) : ∃ i, (k, i) ∈ l ∧ v = i.v ∧ TTL.expired i.e now = false := by
  rw [walk_eq] at h
  obtain ⟨p, hp, e⟩ := List.mem_map.mp ((walk_prefix f _).subset h)
  obtain ⟨hm, hq⟩ := (mem_vfilter _ _ p).mp hp
  cases e
  exact ⟨p.2, hm, rfl, by simpa [liveAt] using hq⟩

theorem walk_keys_sublist (now : Int) (f : K → V → Bool) (l : List (K × Item V)) :
    ((Cache.walk now f l).map (·.1)).Sublist (l.map (·.1)) := by
  have := (walk_prefix f (vfilter l (liveAt now))).sublist.map (·.1)
  rw [List.map_map] at this
  rw [walk_eq]
  exact this.trans (keys_vfilter_sublist l _)

theorem walk_complete (now : Int) (f : K → V → Bool) (hf : ∀ k v, f k v = true) (l : List (K × Item V)) (k : K) (i : Item V)
    (h : (k, i) ∈ l) (hx : TTL.expired i.e now = false) : (k, i.v) ∈ Cache.walk now f l := by
  rw [walk_eq, walk_true f _ fun _ _ => hf _ _]
  exact List.mem_map.mpr ⟨(k, i), (mem_vfilter _ _ _).mpr ⟨h, by simp [liveAt, hx]⟩, rfl⟩

end Proofs.CacheWalk
