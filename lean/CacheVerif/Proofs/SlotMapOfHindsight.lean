import CacheVerif.Proofs.SlotMapOfInv
/-!
# M4b (MapOf): the lock-free `Load` is linearizable against the chain's logical content (hindsight), and a
solo reader terminates within a bound
-/
set_option linter.unusedSectionVars false
namespace Proofs.SlotMapOfHindsight
open Model.SlotMapOf Proofs.SlotMapOfBasic Proofs.SlotMapOfInv Proofs.SlotScheme Proofs.Runs

variable {K V : Type} [DecidableEq K] (h2 : K → Nat)

def soloReader (g : G K V) (l : RL K V) : Nat → RL K V
  | 0 => l
  | n + 1 => soloReader g (rstep h2 g l) n

theorem soloReader_eq_iter (g : G K V) (n : Nat) : ∀ l : RL K V, soloReader h2 g l n = iter (rstep h2 g) n l := by
  induction n with
  | zero => intro l; rfl
  | succ n ih => intro l; exact ih _

/-! ## the per-reader invariant

`Seen o` stands for "the logical content of the reader's key was `o` at some instant since the lookup started". -/

def notPassed : RPc → Nat → Nat → Prop
  | .rdMeta b, b0, _ => b ≤ b0
  | .rdEntry b cands, b0, i0 => b < b0 ∨ (b = b0 ∧ i0 ∈ cands)
  | .rdNext b, b0, _ => b < b0
  | .done, _, _ => True

structure RdInv (Seen : Option V → Prop) (g : G K V) (l : RL K V) : Prop where
  cur : Seen (content h2 g l.key)
  done : l.pc = .done → Seen l.result
  cand : ∀ b cands, l.pc = .rdEntry b cands → ∀ i ∈ cands, ∀ p v,
    getEntry g b i = some p → g.heap p = some (l.key, v) → Seen (some v)
  ahead : Ahead Seen (fun b i => slotHolds h2 g b i l.key) (notPassed l.pc)

theorem rdInv_start (g : G K V) (k : K) :
    RdInv h2 (fun o => o = content h2 g k) g { key := k, pc := .rdMeta 0, result := none } :=
  ⟨rfl, fun h => (nomatch h), fun _ _ h => (nomatch h), Or.inr fun _ _ _ => Nat.zero_le _⟩

theorem rdInv_wstep {Seen Seen' : Option V → Prop} {g g' : G K V} {l : RL K V} (c : WCase h2 g g') (hI : Inv h2 g)
    (hI' : Inv h2 g') (hsub : ∀ o, Seen o → Seen' o) (hcur : Seen' (content h2 g' l.key))
    (ri : RdInv h2 Seen g l) : RdInv h2 Seen' g' l := by
  obtain ⟨b, i, hd⟩ := c.delta
  refine ⟨hcur, fun h => hsub _ (ri.done h), fun b cands hpc i hi p v he hh => ?_,
    ri.ahead.store (holds_other h2 hd hI l.key) (hI'.uniqKey h2 l.key) hsub
      fun ha => (content_none_iff h2 g hI.sizes l.key).mpr ha ▸ ri.cur⟩
  rcases entry_new h2 c hI hI' he hh with ⟨he0, hh0⟩ | hold
  · exact hsub _ (ri.cand b cands hpc i hi p v he0 hh0)
  · rw [← content_some_of_holds h2 hI' hold]; exact hcur

theorem rstep_rdEntry (g : G K V) (key : K) (res : Option V) (b i : Nat) (rest : List Nat) :
    (∃ p v, getEntry g b i = some p ∧ g.heap p = some (key, v) ∧
        rstep h2 g ⟨key, .rdEntry b (i :: rest), res⟩ = ⟨key, .done, some v⟩) ∨
    ((∀ p v, getEntry g b i = some p → g.heap p = some (key, v) → False) ∧
        rstep h2 g ⟨key, .rdEntry b (i :: rest), res⟩ = ⟨key, .rdEntry b rest, res⟩) := by
  cases he : getEntry g b i with
  | none => exact Or.inr ⟨fun _ _ h => (nomatch h), by simp only [rstep, he]⟩
  | some p =>
    cases hh : g.heap p with
    | none =>
      refine Or.inr ⟨fun p' v' he' hh' => ?_, by simp only [rstep, he, hh]⟩
      cases he'; rw [hh] at hh'; cases hh'
    | some kv =>
      obtain ⟨k', v⟩ := kv
      by_cases hk : k' = key
      · subst hk; exact Or.inl ⟨p, v, rfl, hh, by simp only [rstep, he, hh, if_true]⟩
      · refine Or.inr ⟨fun p' v' he' hh' => ?_, by simp only [rstep, he, hh, hk, if_false]⟩
        cases he'; rw [hh] at hh'; cases hh'; exact hk rfl

theorem rstep_key (g : G K V) (l : RL K V) : (rstep h2 g l).key = l.key := by
  unfold rstep
  repeat' split
  all_goals rfl

theorem rdInv_rstep {Seen : Option V → Prop} (g : G K V) (l : RL K V) (hI : Inv h2 g) (ri : RdInv h2 Seen g l) :
    RdInv h2 Seen g (rstep h2 g l) := by
  obtain ⟨key, pc, result⟩ := l
  have ha := ri.ahead
  cases pc with
  | rdMeta b =>
    show RdInv h2 Seen g { key := key, pc := .rdEntry b (candidates (g.buckets.getD b Bucket.empty) (h2 key)), result := result }
    refine ⟨ri.cur, fun h => (nomatch h), ?_, ha.mono fun b0 i0 hh (hnp : b ≤ b0) => ?_⟩
    · intro b' cands' hpc i hi p v he hh
      cases hpc
      obtain ⟨_, hm⟩ := (mem_candidates g b i (h2 key)).mp hi
      rw [← content_some_of_holds h2 hI (holds_of_entry h2 hI hm he hh)]
      exact ri.cur
    · show b < b0 ∨ (b = b0 ∧ i0 ∈ _)
      by_cases hlt : b < b0
      · exact Or.inl hlt
      · obtain rfl : b = b0 := by omega
        obtain ⟨_, _, hm, _⟩ := (slotHolds_ne_none_iff h2 g b i0 key).mp hh
        exact Or.inr ⟨rfl, (mem_candidates g b i0 (h2 key)).mpr ⟨(getMeta_inRange hI.sizes hm).2, hm⟩⟩
  | rdEntry b cands =>
    cases cands with
    | nil =>
      show RdInv h2 Seen g { key := key, pc := .rdNext b, result := result }
      exact ⟨ri.cur, fun h => (nomatch h), fun _ _ h => (nomatch h),
        ha.mono fun b0 i0 _ (hnp : b < b0 ∨ (b = b0 ∧ i0 ∈ [])) => hnp.resolve_right fun h => List.not_mem_nil h.2⟩
    | cons i rest =>
      rcases rstep_rdEntry h2 g key result b i rest with ⟨p, v, he, hh, hr⟩ | ⟨hno, hr⟩
      · rw [hr]
        exact ⟨ri.cur, fun _ => ri.cand b (i :: rest) rfl i List.mem_cons_self p v he hh, fun _ _ h => (nomatch h),
          ha.mono fun _ _ _ _ => trivial⟩
      · rw [hr]
        refine ⟨ri.cur, fun h => (nomatch h), ?_, ha.mono fun b0 i0 hh (hnp : b < b0 ∨ (b = b0 ∧ i0 ∈ i :: rest)) => ?_⟩
        · intro b' c' hpc i' hi' p v he hh
          cases hpc
          exact ri.cand b (i :: rest) rfl i' (List.mem_cons_of_mem _ hi') p v he hh
        · show b < b0 ∨ (b = b0 ∧ i0 ∈ rest)
          rcases hnp with h | ⟨hb, hmem⟩
          · exact Or.inl h
          · rcases List.mem_cons.mp hmem with hi0 | hmem'
            · subst hb; subst hi0
              obtain ⟨v, p, _, he, hh⟩ := (slotHolds_ne_none_iff h2 g b i0 key).mp hh
              exact absurd (hno p v he hh) id
            · exact Or.inr ⟨hb, hmem'⟩
  | rdNext b =>
    unfold rstep
    dsimp only
    split
    · next hlt =>
      exact ⟨ri.cur, fun h => (nomatch h), fun _ _ h => (nomatch h), ha.mono fun b0 i0 _ (hnp : b < b0) => hnp⟩
    · next hge =>
      refine ⟨ri.cur, fun _ => ?_, fun _ _ h => (nomatch h), ha.mono fun _ _ _ _ => trivial⟩
      refine ha.absent (fun hn => (content_none_iff h2 g hI.sizes key).mpr hn ▸ ri.cur) fun b0 i0 hh (hnp : b < b0) => ?_
      obtain ⟨_, _, hm, _⟩ := (slotHolds_ne_none_iff h2 g b0 i0 key).mp hh
      have := (getMeta_inRange hI.sizes hm).1
      omega
  | done => exact ri

/-! ## reader hindsight -/

theorem run_append (as bs : List (Act K V)) (s : St K V) :
    run h2 s (as ++ bs) = (run h2 s as).bind fun s' => run h2 s' bs := by
  simp only [run_eq_foldlM, List.foldlM_append]; rfl

def Looking (t : Tid) (k : K) (Seen : Option V → Prop) (s : St K V) : Prop :=
  Inv h2 s.g ∧ RdInv h2 Seen s.g (s.r t) ∧ (s.r t).key = k

theorem looking_step (t : Tid) (k : K) (Seen : Option V → Prop) (s : St K V) (a : Act K V) (s1 : St K V)
    (hns : ∀ k', a ≠ Act.start t k') (h : Looking h2 t k Seen s) (hs : step h2 s a = some s1) :
    ∃ Seen' : Option V → Prop, Looking h2 t k Seen' s1 ∧ ∀ o, Seen' o → Seen o ∨ o = content h2 s1.g k := by
  obtain ⟨hI, ri, hk⟩ := h
  cases a with
  | w ws =>
    simp only [step, Option.map_eq_some_iff] at hs
    obtain ⟨g', hw, rfl⟩ := hs
    have c := wstep_case h2 _ g' hI ws hw
    have hI' := inv_WCase h2 c hI
    exact ⟨fun o => Seen o ∨ o = content h2 g' k,
      ⟨hI', rdInv_wstep h2 c hI hI' (fun _ => Or.inl) (Or.inr (by rw [hk])) ri, hk⟩, fun _ => id⟩
  | r u =>
    simp only [step, Option.some.injEq] at hs
    subst hs
    refine ⟨Seen, ⟨hI, ?_⟩, fun _ => Or.inl⟩
    dsimp only
    by_cases hu : t = u
    · subst hu; rw [if_pos rfl, rstep_key]; exact ⟨rdInv_rstep h2 s.g (s.r t) hI ri, hk⟩
    · rw [if_neg hu]; exact ⟨ri, hk⟩
  | start u k' =>
    simp only [step, Option.some.injEq] at hs
    subst hs
    have hu : ¬ t = u := fun e => hns k' (by rw [e])
    refine ⟨Seen, ⟨hI, ?_⟩, fun _ => Or.inl⟩
    dsimp only; rw [if_neg hu]; exact ⟨ri, hk⟩

theorem hindsight_from (t : Tid) (k : K) (mid : List (Act K V)) (s0 s : St K V)
    (hns : ∀ a ∈ mid, ∀ k', a ≠ Act.start t k') (hI : Inv h2 s0.g)
    (hstart : s0.r t = { key := k, pc := .rdMeta 0, result := none })
    (hrun : run h2 s0 mid = some s) (hdone : (s.r t).pc = .done) :
    ∃ j, j ≤ mid.length ∧ ∃ s', run h2 s0 (mid.take j) = some s' ∧ content h2 s'.g k = (s.r t).result := by
  simp only [run_eq_foldlM] at hrun ⊢
  obtain ⟨Seen, ⟨_, ri, _⟩, hSeen⟩ := foldlM_hindsight (step h2) (fun s => content h2 s.g k) (Looking h2 t k)
    (fun a => ∀ k', a ≠ Act.start t k') (looking_step h2 t k)
    mid (fun o => o = content h2 s0.g k) s0 s hns ⟨hI, hstart ▸ rdInv_start h2 s0.g k, by rw [hstart]⟩ hrun
  rcases hSeen _ (ri.done hdone) with h | h
  · exact ⟨0, Nat.zero_le _, s0, rfl, h.symm⟩
  · exact h

/-- **Reader hindsight**: the result of a lock-free lookup was the logical content of its key at some instant
between the start of the lookup and its end. -/
theorem reader_hindsight (k0 : K) (pre mid : List (Act K V)) (t : Tid) (k : K) (s : St K V)
    (hns : ∀ a ∈ mid, ∀ k', a ≠ Act.start t k')
    (hrun : run h2 (init k0) (pre ++ [Act.start t k] ++ mid) = some s)
    (hdone : (s.r t).pc = .done) :
    ∃ j, j ≤ mid.length ∧ ∃ s', run h2 (init k0) (pre ++ [Act.start t k] ++ mid.take j) = some s' ∧
      content h2 s'.g k = (s.r t).result := by
  rw [run_append, Option.bind_eq_some_iff] at hrun
  obtain ⟨s0, h0, hrun⟩ := hrun
  have hstart : s0.r t = { key := k, pc := .rdMeta 0, result := none } := by
    rw [run_append, Option.bind_eq_some_iff] at h0
    obtain ⟨s1, _, h1⟩ := h0
    simp only [run, step, Option.some.injEq] at h1
    subst h1
    simp
  obtain ⟨j, hj, s', hrun', hc⟩ := hindsight_from h2 t k mid s0 s hns (inv_reachable h2 k0 _ s0 h0) hstart hrun hdone
  exact ⟨j, hj, s', by rw [run_append, h0]; exact hrun', hc⟩

/-! ## the solo reader: bounded termination ("reads never wait for writers") and its result -/

/-- upper bound on the number of steps a reader at `pc` still needs, in a chain of `L` buckets -/
def mu (L : Nat) : RPc → Nat
  | .rdMeta b => (S + 3) * (L - (b + 1)) + (S + 3)
  | .rdEntry b cands => (S + 3) * (L - (b + 1)) + cands.length + 2
  | .rdNext b => (S + 3) * (L - (b + 1)) + 1
  | .done => 0

theorem mu_rstep (g : G K V) (l : RL K V) (h : l.pc ≠ .done) :
    mu g.buckets.length (rstep h2 g l).pc < mu g.buckets.length l.pc := by
  obtain ⟨key, pc, result⟩ := l
  cases pc with
  | rdMeta b =>
    have := candidates_length_le (g.buckets.getD b Bucket.empty) (h2 key)
    simp only [rstep, mu, S] at this ⊢
    omega
  | rdEntry b cands =>
    cases cands with
    | nil => simp only [rstep, mu, S, List.length_nil]; omega
    | cons i rest =>
      rcases rstep_rdEntry h2 g key result b i rest with ⟨_, _, _, _, hr⟩ | ⟨_, hr⟩ <;>
        (rw [hr]; simp only [mu, S, List.length_cons]; omega)
  | rdNext b =>
    simp only [rstep]
    split <;> simp only [mu, S] <;> omega
  | done => exact absurd rfl h

theorem rstep_done (g : G K V) (l : RL K V) (h : l.pc = .done) : rstep h2 g l = l := by
  obtain ⟨key, pc, result⟩ := l
  cases h
  rfl

theorem solo_done (g : G K V) (n : Nat) (l : RL K V) (h : mu g.buckets.length l.pc ≤ n) :
    (soloReader h2 g l n).pc = .done := by
  rw [soloReader_eq_iter]
  exact iter_done (rstep h2 g) (fun _ => True) (fun l => l.pc = .done) (fun l => mu g.buckets.length l.pc)
    (fun _ _ => trivial) (fun l _ => mu_rstep h2 g l) (rstep_done h2 g) n l trivial h

theorem soloReader_add (g : G K V) (n m : Nat) : ∀ (l : RL K V),
    soloReader h2 g l (n + m) = soloReader h2 g (soloReader h2 g l n) m := by
  intro l
  simp only [soloReader_eq_iter]
  exact iter_add (rstep h2 g) n m l

theorem solo_terminates_at (g : G K V) (k : K) (n : Nat) (hn : (S + 3) * max g.buckets.length 1 ≤ n) :
    (soloReader h2 g { key := k, pc := .rdMeta 0, result := none } n).pc = .done := by
  refine solo_done h2 g n _ ?_
  simp only [mu, S] at hn ⊢
  omega

/-- **Bounded solo run** ("reads never wait for writers"): from ANY global state — in particular with a half-done
writer operation pending — a reader running alone reaches `done` within `(S + 3) * max (#buckets) 1` steps
(per bucket: one meta load, at most `S` entry loads, the step leaving the candidate loop, one `next` load).

One step less per bucket, `(S + 2) * #buckets + 1`, is too small as soon as there are two buckets whose meta bytes all
match: see `original_bound_fails`. -/
theorem solo_terminates (g : G K V) (k : K) :
    ∃ n, n ≤ (S + 3) * max g.buckets.length 1 ∧
      (soloReader h2 g { key := k, pc := .rdMeta 0, result := none } n).pc = .done :=
  ⟨_, Nat.le_refl _, solo_terminates_at h2 g k _ (Nat.le_refl _)⟩

def cexG : G Nat Nat :=
  { buckets := [{ mbytes := List.replicate S (some 0), entries := List.replicate S none },
                { mbytes := List.replicate S (some 0), entries := List.replicate S none }],
    heap := fun _ => none, nextPtr := 0, pending := .none }

/-- the bound `(S + 2) * #buckets + 1` (the name's `original` bound: the count without the step leaving the candidate
loop) does not hold: in `cexG` the reader needs `2 * (S + 3) = 16 > 15` steps -/
theorem original_bound_fails :
    ∀ n, n ≤ (S + 2) * cexG.buckets.length + 1 →
      (soloReader (fun _ => 0) cexG { key := 0, pc := .rdMeta 0, result := none } n).pc ≠ .done := by
  decide

/-- **Result of a solo run**: from a state satisfying the representation invariant (with or without a pending
writer operation) the solo reader returns exactly the logical content of its key. -/
theorem solo_result_any (g : G K V) (k : K) (hI : Inv h2 g) (n : Nat)
    (hd : (soloReader h2 g { key := k, pc := .rdMeta 0, result := none } n).pc = .done) :
    (soloReader h2 g { key := k, pc := .rdMeta 0, result := none } n).result = content h2 g k := by
  rw [soloReader_eq_iter] at hd ⊢
  exact (iter_invariant (rstep h2 g) (RdInv h2 (fun o => o = content h2 g k) g) (fun l => rdInv_rstep h2 g l hI) n _
    (rdInv_start h2 g k)).done hd

/-- the quiescent case, no pending writer operation (the hypothesis is not needed: `solo_result_any`) -/
theorem solo_result (g : G K V) (k : K) (hI : Inv h2 g) (_hp : g.pending = .none) (n : Nat)
    (hd : (soloReader h2 g { key := k, pc := .rdMeta 0, result := none } n).pc = .done) :
    (soloReader h2 g { key := k, pc := .rdMeta 0, result := none } n).result = content h2 g k :=
  solo_result_any h2 g k hI n hd

theorem solo_reader (g : G K V) (k : K) (hI : Inv h2 g) :
    ∃ n, n ≤ (S + 3) * max g.buckets.length 1 ∧
      (soloReader h2 g { key := k, pc := .rdMeta 0, result := none } n).pc = .done ∧
      (soloReader h2 g { key := k, pc := .rdMeta 0, result := none } n).result = content h2 g k := by
  obtain ⟨n, hn, hd⟩ := solo_terminates h2 g k
  exact ⟨n, hn, hd, solo_result_any h2 g k hI n hd⟩

end Proofs.SlotMapOfHindsight
