import CacheVerif.Generated.Leaf
/-!
# Lemmas about the machine-translated bit-level leaf functions of `internal/xsync`

Re-proved against the current source on every run (the definitions in `Gen` are regenerated by
`tools/go2lean`).  They justify the word-free search of M3 (`Model/Table.lean`): a slot holding a key is
always among the candidates the packed words (`topHashMutex` / `meta`) select, storing or erasing one slot's
bits never disturbs another slot's bits nor the spin-lock bit, and an empty `meta` byte never equals an `h2`.
Kernel-only proofs (no SAT-certificate or native-evaluation tactics).

`Proofs/Words.lean` and `Proofs/WordsInv.lean` take up what the search and the word updates need.  Nothing takes up
`topHashMatch_erase`, `topHashMatch_present`, `storeTopHash_lockbit`, `eraseTopHash_lockbit`, `nextPowOf2_isPow2` /
`_ge` / `_pos` (with `smear*` under them) and `firstMarkedByteIndex_of_markers` (DESIGN 3.2): each is a statement about
one leaf function that stops the build when a change of the source makes it false.
-/
namespace Proofs.LeafBits

/-- the same function as the model's `Model.Words.byteOf` (`Words.byteOf_eq_getByte`) -/
def getByte (w : BitVec 64) (i : Nat) : BitVec 8 := BitVec.setWidth 8 (w >>> (8 * i))

/-! ## `Map`: the top-hash word -/

/-- the bits of a literal `c`: `h` is a `decide` over the 64 positions -/
theorem lit_getLsbD (c : BitVec 64) (P : Nat → Prop) [DecidablePred P]
    (h : ∀ j : Fin 64, c.getLsbD j.val = decide (P j.val)) (hp : ∀ j, P j → j < 64) (j : Nat) :
    c.getLsbD j = decide (P j) := by
  by_cases hj : j < 64
  · exact h ⟨j, hj⟩
  · rw [BitVec.getLsbD_of_ge _ _ (by omega), decide_eq_false fun hP => hj (hp j hP)]

theorem topHashMask_getLsbD (j : Nat) :
    Gen.topHashMask.getLsbD j = decide (44 ≤ j ∧ j < 64) := by
  exact lit_getLsbD _ (fun j => 44 ≤ j ∧ j < 64) (by decide) (fun _ h => h.2) j

theorem entryMask_eq (i : Nat) (hi : i < 3) :
    Gen.topHashEntryMasks.getD i 0#64 = Gen.topHashMask >>> (20 * i) := by
  obtain rfl | rfl | rfl : i = 0 ∨ i = 1 ∨ i = 2 := by omega
  all_goals decide

theorem entryMask_getLsbD (i : Nat) (hi : i < 3) (j : Nat) :
    (Gen.topHashEntryMasks.getD i 0#64).getLsbD j = decide (44 ≤ j + 20 * i ∧ j + 20 * i < 64) := by
  rw [entryMask_eq i hi, BitVec.getLsbD_ushiftRight, topHashMask_getLsbD]
  congr 1; apply propext; omega

theorem and_one_shl_beq_zero (w : BitVec 64) (n : Nat) :
    ((w &&& (1#64 <<< n)) == 0#64) = !w.getLsbD n := by
  rw [← BitVec.twoPow_eq, BitVec.and_twoPow]
  cases hb : w.getLsbD n
  · simp
  · have hn : n < 64 := BitVec.lt_of_getLsbD hb
    simp
    intro h
    have := congrArg (fun x => x.getLsbD n) h
    simp [hn] at this

theorem storeTopHash_getLsbD (h w : BitVec 64) (i : Nat) (hi : i < 3) (j : Nat) :
    (Gen.storeTopHash h w i).getLsbD j =
      if j = i + 1 then true
      else if 44 ≤ j + 20 * i ∧ j + 20 * i < 64 then h.getLsbD (j + 20 * i)
      else w.getLsbD j := by
  simp only [Gen.storeTopHash, BitVec.getLsbD_or, BitVec.getLsbD_and, BitVec.getLsbD_not,
    BitVec.getLsbD_ushiftRight, BitVec.getLsbD_shiftLeft, entryMask_getLsbD i hi, topHashMask_getLsbD]
  rw [Nat.add_comm (20 * i) j, BitVec.getLsbD_one]
  by_cases h1 : j = i + 1
  · subst h1; simp; omega
  · by_cases h2 : 44 ≤ j + 20 * i ∧ j + 20 * i < 64
    · have : ¬ (j - (i + 1) = 0 ∧ j < 64 ∧ ¬ j < i + 1) := by omega
      simp [h1, h2]; omega
    · by_cases h3 : j < 64
      · simp [h1, h2, h3]; omega
      · simp [h1, h2, h3, BitVec.getLsbD_of_ge w j (by omega)]

theorem clearBit_getLsbD (w : BitVec 64) (n j : Nat) :
    (w &&& ~~~(1#64 <<< n)).getLsbD j = (w.getLsbD j && !decide (j = n)) := by
  rw [← BitVec.twoPow_eq, BitVec.getLsbD_and, BitVec.getLsbD_not, BitVec.getLsbD_twoPow]
  by_cases h1 : n = j
  · subst h1
    cases h3 : w.getLsbD n
    · simp
    · simp [BitVec.lt_of_getLsbD h3]
  · simpa [h1, Ne.symm h1] using BitVec.lt_of_getLsbD

theorem entry_shifted_getLsbD (w : BitVec 64) (i : Nat) (hi : i < 3) (k : Nat) :
    ((w &&& Gen.topHashEntryMasks.getD i 0#64) <<< (20 * i)).getLsbD k =
      (decide (44 ≤ k ∧ k < 64) && w.getLsbD (k - 20 * i)) := by
  rw [BitVec.getLsbD_shiftLeft, BitVec.getLsbD_and, entryMask_getLsbD i hi]
  by_cases h : 44 ≤ k ∧ k < 64
  · have h1 : ¬ k < 20 * i := by omega
    have h2 : 44 ≤ k - 20 * i + 20 * i ∧ k - 20 * i + 20 * i < 64 := by omega
    simp [h, h1, h2]
  · have : ¬ k < 64 ∨ k < 20 * i ∨ ¬ (44 ≤ k - 20 * i + 20 * i ∧ k - 20 * i + 20 * i < 64) := by omega
    rcases this with h1 | h1 | h1 <;> simp [h, h1]

/-- the presence bit of slot `i` is set and its 20 stored bits are the top 20 bits of the hash -/
theorem topHashMatch_iff (h w : BitVec 64) (i : Nat) (hi : i < 3) :
    Gen.topHashMatch h w i = true ↔
      w.getLsbD (i + 1) = true ∧ ∀ k, 44 ≤ k → k < 64 → h.getLsbD k = w.getLsbD (k - 20 * i) := by
  simp only [Gen.topHashMatch, and_one_shl_beq_zero]
  cases hb : w.getLsbD (i + 1)
  · simp
  · simp only [Bool.not_true, Bool.false_eq_true, if_false, true_and, beq_iff_eq]
    constructor
    · intro heq k hk1 hk2
      have := congrArg (fun x => x.getLsbD k) heq
      simp only [BitVec.getLsbD_and, topHashMask_getLsbD, entry_shifted_getLsbD w i hi,
        decide_eq_true (⟨hk1, hk2⟩ : 44 ≤ k ∧ k < 64), Bool.and_true, Bool.true_and] at this
      exact this
    · intro hall
      apply BitVec.eq_of_getLsbD_eq
      intro k hk
      rw [entry_shifted_getLsbD w i hi, BitVec.getLsbD_and, topHashMask_getLsbD]
      by_cases hk1 : 44 ≤ k
      · rw [decide_eq_true (⟨hk1, hk⟩ : 44 ≤ k ∧ k < 64), Bool.and_true, Bool.true_and]
        exact hall k hk1 hk
      · rw [decide_eq_false (fun c : 44 ≤ k ∧ k < 64 => hk1 c.1), Bool.and_false, Bool.false_and]

theorem topHashMatch_congr (h : BitVec 64) (w w' : BitVec 64) (i : Nat) (hi : i < 3)
    (hp : w'.getLsbD (i + 1) = w.getLsbD (i + 1))
    (hb : ∀ k, 44 ≤ k → k < 64 → w'.getLsbD (k - 20 * i) = w.getLsbD (k - 20 * i)) :
    Gen.topHashMatch h w' i = Gen.topHashMatch h w i := by
  rw [Bool.eq_iff_iff, topHashMatch_iff h w' i hi, topHashMatch_iff h w i hi, hp]
  exact and_congr_right fun _ => forall_congr' fun k => forall_congr' fun a => forall_congr' fun b => by rw [hb k a b]

theorem topHashMatch_store (h w : BitVec 64) (i : Nat) (hi : i < 3) :
    Gen.topHashMatch h (Gen.storeTopHash h w i) i = true := by
  rw [topHashMatch_iff h _ i hi]
  constructor
  · rw [storeTopHash_getLsbD h w i hi]; simp
  · intro k hk1 hk2
    rw [storeTopHash_getLsbD h w i hi, if_neg (by omega), if_pos (by omega)]
    congr 1; omega

theorem topHashMatch_store_other (h h' w : BitVec 64) (i j : Nat) (hi : i < 3) (hj : j < 3)
    (hij : i ≠ j) :
    Gen.topHashMatch h' (Gen.storeTopHash h w i) j = Gen.topHashMatch h' w j := by
  apply topHashMatch_congr h' w _ j hj
  · rw [storeTopHash_getLsbD h w i hi, if_neg (by omega), if_neg (by omega)]
  · intro k hk1 hk2
    rw [storeTopHash_getLsbD h w i hi, if_neg (by omega), if_neg (by omega)]

theorem topHashMatch_clearBit (h w : BitVec 64) (n i : Nat) (hi : i < 3) (hn : n < 4) (hne : n ≠ i + 1) :
    Gen.topHashMatch h (w &&& ~~~(1#64 <<< n)) i = Gen.topHashMatch h w i := by
  apply topHashMatch_congr h w _ i hi
  · rw [clearBit_getLsbD, decide_eq_false (Ne.symm hne)]; simp
  · intro k hk1 hk2
    rw [clearBit_getLsbD, decide_eq_false (by omega)]; simp

theorem topHashMatch_erase (h w : BitVec 64) (i : Nat) (hi : i < 3) :
    Gen.topHashMatch h (Gen.eraseTopHash w i) i = false := by
  rw [← Bool.not_eq_true, topHashMatch_iff h _ i hi, Gen.eraseTopHash, clearBit_getLsbD]
  simp

theorem topHashMatch_erase_other (h w : BitVec 64) (i j : Nat) (hi : i < 3) (hj : j < 3)
    (hij : i ≠ j) :
    Gen.topHashMatch h (Gen.eraseTopHash w i) j = Gen.topHashMatch h w j :=
  topHashMatch_clearBit h w (i + 1) j hj (by omega) (by omega)

theorem topHashMatch_unlockbit (h w : BitVec 64) (i : Nat) (hi : i < 3) :
    Gen.topHashMatch h (w &&& ~~~1#64) i = Gen.topHashMatch h w i :=
  topHashMatch_clearBit h w 0 i hi (by omega) (by omega)

theorem storeTopHash_lockbit (h w : BitVec 64) (i : Nat) (hi : i < 3) :
    (Gen.storeTopHash h w i).getLsbD 0 = w.getLsbD 0 := by
  rw [storeTopHash_getLsbD h w i hi, if_neg (by omega), if_neg (by omega)]

theorem eraseTopHash_lockbit (w : BitVec 64) (i : Nat) :
    (Gen.eraseTopHash w i).getLsbD 0 = w.getLsbD 0 := by
  rw [Gen.eraseTopHash, clearBit_getLsbD, decide_eq_false (by omega)]; simp

theorem topHashMatch_lockbit (h w : BitVec 64) (i : Nat) (hi : i < 3) :
    Gen.topHashMatch h (w ||| 1#64) i = Gen.topHashMatch h w i := by
  apply topHashMatch_congr h w _ i hi
  · simp [BitVec.getLsbD_or, BitVec.getLsbD_one]
  · intro k hk1 hk2
    have : ¬ (k - 20 * i = 0) := by omega
    simp [BitVec.getLsbD_or, BitVec.getLsbD_one, this]

theorem topHashMatch_present (h w : BitVec 64) (i : Nat) (hi : i < 3)
    (hm : Gen.topHashMatch h w i = true) : w.getLsbD (i + 1) = true :=
  ((topHashMatch_iff h w i hi).1 hm).1

/-! ## `MapOf`: the `meta` word -/

theorem getByte_getLsbD (w : BitVec 64) (i k : Nat) :
    (getByte w i).getLsbD k = (decide (k < 8) && w.getLsbD (8 * i + k)) := by
  simp [getByte, BitVec.getLsbD_setWidth, BitVec.getLsbD_ushiftRight]

theorem getByte_toNat (w : BitVec 64) (i : Nat) :
    (getByte w i).toNat = w.toNat / 2 ^ (8 * i) % 256 := by
  simp [getByte, BitVec.toNat_setWidth, BitVec.toNat_ushiftRight, Nat.shiftRight_eq_div_pow]

theorem ff_getLsbD (j : Nat) : (0xff#64).getLsbD j = decide (j < 8) := by
  exact lit_getLsbD _ (fun j => j < 8) (by decide) (fun _ h => by omega) j

theorem setByte_getLsbD (w : BitVec 64) (b : BitVec 8) (i n : Nat) :
    (Gen.setByte w b i).getLsbD n =
      if 8 * i ≤ n ∧ n < 8 * i + 8 then (decide (n < 64) && b.getLsbD (n - 8 * i)) else w.getLsbD n := by
  have e : i <<< 3 = 8 * i := by rw [Nat.shiftLeft_eq]; omega
  simp only [Gen.setByte, e, BitVec.getLsbD_or, BitVec.getLsbD_and, BitVec.getLsbD_not,
    BitVec.getLsbD_shiftLeft, BitVec.getLsbD_setWidth, ff_getLsbD]
  by_cases hn : n < 64
  · by_cases h1 : 8 * i ≤ n ∧ n < 8 * i + 8
    · have h2 : ¬ n < 8 * i := by omega
      have h3 : n - 8 * i < 8 := by omega
      have h4 : n - 8 * i < 64 := by omega
      simp [hn, h1, h2, h3, h4]
    · by_cases h2 : n < 8 * i
      · simp [hn, h1, h2]
      · have h3 : ¬ n - 8 * i < 8 := by omega
        simp [hn, h1, h2, h3, BitVec.getLsbD_of_ge b (n - 8 * i) (by omega)]
  · simp [hn, BitVec.getLsbD_of_ge w n (by omega)]

theorem getByte_setByte (w : BitVec 64) (b : BitVec 8) (i j : Nat) (hj : j < 8) :
    getByte (Gen.setByte w b i) j = if j = i then b else getByte w j := by
  apply BitVec.eq_of_getLsbD_eq
  intro k hk
  by_cases e : j = i
  · subst e
    rw [if_pos rfl, getByte_getLsbD, setByte_getLsbD, if_pos (by omega)]
    simp [hk, show 8 * j + k < 64 by omega]
  · rw [if_neg e, getByte_getLsbD, getByte_getLsbD, setByte_getLsbD, if_neg (by omega)]

theorem h2_lt (h : BitVec 64) : (Gen.h2 h).toNat < 128 := by
  simp only [Gen.h2, BitVec.toNat_setWidth, BitVec.toNat_and]
  have : h.toNat &&& (0x7f#64).toNat ≤ 127 := Nat.and_le_right
  omega

theorem h2_ne_empty (h : BitVec 64) : Gen.h2 h ≠ Gen.emptyMetaSlot := by
  intro e
  have := h2_lt h
  rw [e] at this
  revert this; decide

theorem broadcast_toNat (b : BitVec 8) : (Gen.broadcast b).toNat = 0x101010101010101 * b.toNat := by
  have := b.isLt
  simp only [Gen.broadcast, BitVec.toNat_mul, BitVec.toNat_setWidth, BitVec.toNat_ofNat]
  omega

/-- `M` is `01 01 … 01` (`n` bytes: `255 * M + 1 = 256 ^ n`).  `M * b` has `b` in each of them: the copies of `b < 256`
sit one byte apart, so none carries into the next -/
theorem mul_ones_byte (b : Nat) (hb : b < 256) :
    ∀ (i n M : Nat), i < n → 255 * M + 1 = 256 ^ n → M * b / 256 ^ i % 256 = b := by
  intro i
  induction i with
  | zero =>
    intro n M hn h
    obtain ⟨n, rfl⟩ : ∃ n', n = n' + 1 := ⟨n - 1, by omega⟩
    obtain ⟨M, rfl⟩ : ∃ M', M = 1 + 256 * M' := ⟨M / 256, by rw [Nat.pow_succ] at h; omega⟩
    rw [Nat.add_mul, Nat.one_mul, Nat.mul_assoc]
    omega
  | succ i ih =>
    intro n M hn h
    obtain ⟨n, rfl⟩ : ∃ n', n = n' + 1 := ⟨n - 1, by omega⟩
    rw [Nat.pow_succ] at h
    obtain ⟨M, rfl⟩ : ∃ M', M = 1 + 256 * M' := ⟨M / 256, by omega⟩
    rw [Nat.add_mul, Nat.one_mul, Nat.mul_assoc, Nat.pow_succ', ← Nat.div_div_eq_div_mul,
      show (b + 256 * (M * b)) / 256 = M * b by omega]
    exact ih n M (by omega) (by omega)

theorem broadcast_getByte (b : BitVec 8) (i : Nat) (hi : i < 8) : getByte (Gen.broadcast b) i = b := by
  apply BitVec.eq_of_toNat_eq
  rw [getByte_toNat, broadcast_toNat, Nat.pow_mul]
  exact mul_ones_byte b.toNat b.isLt i 8 _ hi (by decide)

theorem markerMask_getLsbD (j : Nat) :
    (0x8080808080808080#64).getLsbD j = decide (j < 64 ∧ j % 8 = 7) := by
  exact lit_getLsbD _ (fun j => j < 64 ∧ j % 8 = 7) (by decide) (fun _ h => h.1) j

theorem metaMask_getLsbD (j : Nat) : Gen.metaMask.getLsbD j = decide (j < 40) := by
  exact lit_getLsbD _ (fun j => j < 40) (by decide) (fun _ h => by omega) j

theorem getLsbD_eq_div_mod (w : BitVec 64) (n : Nat) :
    w.getLsbD n = decide (w.toNat / 2 ^ n % 2 = 1) := by
  rw [BitVec.getLsbD, Nat.testBit_eq_decide_div_mod_eq]

theorem markZeroBytes_no_false_negative (w : BitVec 64) (i : Nat) (hi : i < 8)
    (hz : getByte w i = 0#8) : (Gen.markZeroBytes w).getLsbD (8 * i + 7) = true := by
  have hz' : w.toNat / 2 ^ (8 * i) % 256 = 0 := by
    rw [← getByte_toNat, hz]; rfl
  have hw := w.isLt
  simp only [Gen.markZeroBytes, BitVec.getLsbD_and, BitVec.getLsbD_not, Bool.and_eq_true]
  refine ⟨⟨?_, ?_⟩, ?_⟩
  · -- the borrow argument: byte `i` of `w` is 0, so byte `i` of `w - 0x01…01` is `FF` or `FE`, whatever the bytes below
    -- it borrow, and its top bit is set; `omega` finds this on `toNat`, one byte position at a time
    rw [getLsbD_eq_div_mod, BitVec.toNat_sub, decide_eq_true_eq]
    simp only [BitVec.toNat_ofNat]
    obtain rfl | rfl | rfl | rfl | rfl | rfl | rfl | rfl :
      i = 0 ∨ i = 1 ∨ i = 2 ∨ i = 3 ∨ i = 4 ∨ i = 5 ∨ i = 6 ∨ i = 7 := by omega
    all_goals
      (simp only [Nat.reducePow, Nat.reduceMul, Nat.reduceAdd, Nat.reduceMod, Nat.reduceSub] at hz' hw ⊢
       omega)
  · have : 8 * i + 7 < 64 := by omega
    rw [getLsbD_eq_div_mod]
    simp only [this, decide_true, Bool.not_eq_true', decide_eq_false_iff_not]
    rw [Nat.pow_add, ← Nat.div_div_eq_div_mul]
    generalize w.toNat / 2 ^ (8 * i) = x at hz'
    refine ⟨trivial, ?_⟩
    simp only [Nat.reducePow]
    omega
  · rw [markerMask_getLsbD, decide_eq_true_eq]; omega

theorem getByte_xor (x y : BitVec 64) (i : Nat) : getByte (x ^^^ y) i = getByte x i ^^^ getByte y i := by
  apply BitVec.eq_of_getLsbD_eq
  intro k hk
  rw [BitVec.getLsbD_xor]
  simp only [getByte_getLsbD, BitVec.getLsbD_xor, hk, decide_true, Bool.true_and]

theorem candidate_of_meta (m : BitVec 64) (b : BitVec 8) (i : Nat) (hi : i < 5)
    (hm : getByte m i = b) :
    ((Gen.markZeroBytes (m ^^^ Gen.broadcast b)) &&& Gen.metaMask).getLsbD (8 * i + 7) = true := by
  rw [BitVec.getLsbD_and, Bool.and_eq_true]
  constructor
  · apply markZeroBytes_no_false_negative _ i (by omega)
    rw [getByte_xor, broadcast_getByte b i (by omega), hm, BitVec.xor_self]
  · rw [metaMask_getLsbD, decide_eq_true_eq]; omega

theorem defaultMeta_bytes (i : Nat) (hi : i < 8) : getByte Gen.defaultMeta i = Gen.emptyMetaSlot := by
  obtain rfl | rfl | rfl | rfl | rfl | rfl | rfl | rfl :
    i = 0 ∨ i = 1 ∨ i = 2 ∨ i = 3 ∨ i = 4 ∨ i = 5 ∨ i = 6 ∨ i = 7 := by omega
  all_goals decide

/-! ## table sizes, first marked byte

`nextPowOf2` is what turns a size hint into a table length.  The statements about tables do not take the three
`nextPowOf2_*` facts up: they carry the length as a hypothesis (`hlen` of `TableRefine.new_sim`, of
`DeepLoad.load_is_model_load`). -/

/-- the or-chain of `nextPowOf2` -/
def smear (x : BitVec 32) : BitVec 32 :=
  let v := (x ||| (x >>> 1))
  let v := (v ||| (v >>> 2))
  let v := (v ||| (v >>> 4))
  let v := (v ||| (v >>> 8))
  (v ||| (v >>> 16))

theorem nextPowOf2_eq (v : BitVec 32) :
    Gen.nextPowOf2 v = if (v == 0x0#32) then 0x1#32 else smear (v - 0x1#32) + 0x1#32 := rfl

theorem smear_step (x y : BitVec 32) (k s : Nat) (hs : s ≤ k)
    (hP : ∀ j, y.getLsbD j = true ↔ ∃ d, d < k ∧ x.getLsbD (j + d) = true) :
    ∀ j, (y ||| y >>> s).getLsbD j = true ↔ ∃ d, d < k + s ∧ x.getLsbD (j + d) = true := by
  intro j
  rw [BitVec.getLsbD_or, BitVec.getLsbD_ushiftRight, Bool.or_eq_true, hP, hP]
  constructor
  · rintro (⟨d, hd, h⟩ | ⟨d, hd, h⟩)
    · exact ⟨d, by omega, h⟩
    · exact ⟨s + d, by omega, by rw [← h]; congr 1; omega⟩
  · rintro ⟨d, hd, h⟩
    by_cases hdk : d < k
    · exact Or.inl ⟨d, hdk, h⟩
    · exact Or.inr ⟨d - s, by omega, by rw [← h]; congr 1; omega⟩

theorem smear_getLsbD (x : BitVec 32) (j : Nat) :
    (smear x).getLsbD j = true ↔ ∃ n, j ≤ n ∧ x.getLsbD n = true := by
  have h0 : ∀ j, x.getLsbD j = true ↔ ∃ d, d < 1 ∧ x.getLsbD (j + d) = true := by
    intro j
    constructor
    · intro h; exact ⟨0, by omega, h⟩
    · rintro ⟨d, hd, h⟩
      obtain rfl : d = 0 := by omega
      exact h
  have h1 := smear_step x _ 1 1 (by omega) h0
  have h2 := smear_step x _ 2 2 (by omega) h1
  have h3 := smear_step x _ 4 4 (by omega) h2
  have h4 := smear_step x _ 8 8 (by omega) h3
  have h5 := smear_step x _ 16 16 (by omega) h4
  rw [show smear x = _ from rfl]
  refine (h5 j).trans ?_
  constructor
  · rintro ⟨d, _, h⟩; exact ⟨j + d, by omega, h⟩
  · rintro ⟨n, hn, h⟩
    have : n < 32 := BitVec.lt_of_getLsbD h
    exact ⟨n - j, by omega, by rw [← h]; congr 1; omega⟩

theorem smear_spec (x : BitVec 32) (hx : x.toNat < 2 ^ 31) :
    ∃ k, k ≤ 31 ∧ (smear x).toNat = 2 ^ k - 1 ∧ x.toNat < 2 ^ k := by
  by_cases h0 : x.toNat = 0
  · exact ⟨0, by omega, by rw [BitVec.eq_of_toNat_eq (y := 0#32) h0]; rfl, by omega⟩
  · refine ⟨x.toNat.log2 + 1, (Nat.log2_lt h0).2 hx, Nat.eq_of_testBit_eq fun j => ?_, Nat.lt_log2_self⟩
    rw [Nat.testBit_two_pow_sub_one, Bool.eq_iff_iff, decide_eq_true_iff]
    refine (smear_getLsbD x j).trans ⟨?_, fun hj => ⟨_, by omega, Nat.testBit_log2 h0⟩⟩
    rintro ⟨n, hn, hxn⟩
    have := (Nat.le_log2 h0).2 (Nat.ge_two_pow_of_testBit hxn)
    omega

theorem nextPowOf2_spec (v : BitVec 32) (h : v.toNat ≤ 2 ^ 31) :
    ∃ k, k ≤ 31 ∧ (Gen.nextPowOf2 v).toNat = 2 ^ k ∧ v.toNat ≤ 2 ^ k := by
  rw [nextPowOf2_eq]
  by_cases hv : v = 0#32
  · subst hv; exact ⟨0, by omega, by decide, by decide⟩
  · have hv' : v.toNat ≠ 0 := fun e => hv (BitVec.eq_of_toNat_eq e)
    have hx : (v - 1#32).toNat = v.toNat - 1 := by
      have := v.isLt
      rw [BitVec.toNat_sub]; simp only [BitVec.toNat_ofNat]; omega
    obtain ⟨k, hk, e, hlt⟩ := smear_spec (v - 1#32) (by omega)
    have hpos : 0 < 2 ^ k := Nat.pow_pos (by omega)
    have hle : 2 ^ k ≤ 2 ^ 31 := Nat.pow_le_pow_right (by omega) hk
    refine ⟨k, hk, ?_, by omega⟩
    have : (v == 0#32) = false := by simpa using hv
    rw [this]
    simp only [Bool.false_eq_true, if_false, BitVec.toNat_add, e, BitVec.toNat_ofNat]
    omega

theorem nextPowOf2_isPow2 (v : BitVec 32) (h : v.toNat ≤ 2 ^ 31) :
    ∃ k, (Gen.nextPowOf2 v).toNat = 2 ^ k := by
  obtain ⟨k, _, e, _⟩ := nextPowOf2_spec v h
  exact ⟨k, e⟩

theorem nextPowOf2_ge (v : BitVec 32) (h : v.toNat ≤ 2 ^ 31) :
    v.toNat ≤ (Gen.nextPowOf2 v).toNat := by
  obtain ⟨k, _, e, hle⟩ := nextPowOf2_spec v h
  omega

theorem nextPowOf2_pos (v : BitVec 32) (h : v.toNat ≤ 2 ^ 31) : 0 < (Gen.nextPowOf2 v).toNat := by
  obtain ⟨k, _, e, _⟩ := nextPowOf2_spec v h
  rw [e]; exact Nat.pow_pos (by omega)

theorem trailingZeros64_go_eq (w : BitVec 64) (n : Nat) (hn : w.getLsbD n = true) :
    ∀ fuel i, i ≤ n → n < i + fuel → (∀ j, i ≤ j → j < n → w.getLsbD j = false) →
      GoPrelude.trailingZeros64.go w fuel i = n := by
  intro fuel
  induction fuel with
  | zero => intro i h1 h2; omega
  | succ fuel ih =>
    intro i h1 h2 hlow
    rw [GoPrelude.trailingZeros64.go]
    by_cases hin : i = n
    · subst hin; simp [hn]
    · rw [hlow i (by omega) (by omega)]
      simp only [Bool.false_eq_true, if_false]
      exact ih (i + 1) (by omega) (by omega) (fun j a b => hlow j (by omega) b)

theorem trailingZeros64_eq (w : BitVec 64) (n : Nat) (hn : w.getLsbD n = true)
    (hlow : ∀ j, j < n → w.getLsbD j = false) : GoPrelude.trailingZeros64 w = n :=
  trailingZeros64_go_eq w n hn 64 0 (by omega) (by have := BitVec.lt_of_getLsbD hn; omega) (fun j _ b => hlow j b)

theorem trailingZeros64_go_le (w : BitVec 64) (j : Nat) (hj : w.getLsbD j = true) :
    ∀ fuel i, i ≤ j → j < i + fuel → GoPrelude.trailingZeros64.go w fuel i ≤ j := by
  intro fuel
  induction fuel with
  | zero => intro i h1 h2; omega
  | succ fuel ih =>
    intro i h1 h2
    rw [GoPrelude.trailingZeros64.go]
    split
    · exact h1
    · rename_i hi
      have : i ≠ j := fun e => hi (e ▸ hj)
      exact ih (i + 1) (by omega) (by omega)

theorem trailingZeros64_le (w : BitVec 64) (j : Nat) (hj : w.getLsbD j = true) : GoPrelude.trailingZeros64 w ≤ j :=
  trailingZeros64_go_le w j hj 64 0 (by omega) (by have := BitVec.lt_of_getLsbD hj; omega)

theorem and_sub_one_getLsbD {n : Nat} (w : BitVec n) (j : Nat) :
    (w &&& (w - 1#n)).getLsbD j = (w.getLsbD j && decide (∃ l < j, w.getLsbD l = true)) := by
  rw [← BitVec.not_neg, BitVec.getLsbD_and, BitVec.getLsbD_not, BitVec.getLsbD_neg]
  by_cases hj : j < n
  · cases w.getLsbD j <;> simp [hj]
  · rw [BitVec.getLsbD_of_ge _ _ (Nat.le_of_not_lt hj)]; rfl

theorem firstMarkedByteIndex_eq (w : BitVec 64) (i : Nat) (hb : w.getLsbD (8 * i + 7) = true)
    (hlow : ∀ j, j < 8 * i + 7 → w.getLsbD j = false) : Gen.firstMarkedByteIndex w = i := by
  rw [Gen.firstMarkedByteIndex, trailingZeros64_eq w _ hb hlow, Nat.shiftRight_eq_div_pow]
  omega

theorem markZeroBytes_only_markers (w : BitVec 64) (j : Nat)
    (h : (Gen.markZeroBytes w).getLsbD j = true) : j % 8 = 7 := by
  simp only [Gen.markZeroBytes, BitVec.getLsbD_and, markerMask_getLsbD, Bool.and_eq_true,
    decide_eq_true_eq] at h
  exact h.2.2

theorem firstMarkedByteIndex_of_markers (w : BitVec 64) (i : Nat)
    (hmark : ∀ j, w.getLsbD j = true → j % 8 = 7)
    (hb : w.getLsbD (8 * i + 7) = true)
    (hlow : ∀ k, k < i → w.getLsbD (8 * k + 7) = false) : Gen.firstMarkedByteIndex w = i := by
  apply firstMarkedByteIndex_eq w i hb
  intro j hj
  apply Bool.eq_false_iff.2
  intro h
  have h7 := hmark j h
  have := hlow (j / 8) (by omega)
  rw [show 8 * (j / 8) + 7 = j by omega, h] at this
  cases this

theorem firstMarkedByteIndex_lt (w : BitVec 64) (n : Nat) (hw : ∀ j, w.getLsbD j = true → j < 8 * n)
    (hz : w ≠ 0#64) : Gen.firstMarkedByteIndex w < n := by
  apply Classical.byContradiction
  intro hge
  apply hz
  apply BitVec.eq_of_getLsbD_eq
  intro j _
  rw [BitVec.getLsbD_zero]
  apply Bool.eq_false_iff.2
  intro h
  have := trailingZeros64_le w j h
  have := hw j h
  rw [Gen.firstMarkedByteIndex, Nat.shiftRight_eq_div_pow] at hge
  omega

end Proofs.LeafBits
