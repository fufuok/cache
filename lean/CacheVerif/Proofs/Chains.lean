import CacheVerif.Model.Table
/-!
# Chains of slots (`Model.Table.Slots`): induction slot by slot, search of an appended chain
-/
namespace Proofs.Chains
open Model.Table

variable {K V : Type}

theorem slots_induction {motive : Slots K V → Prop} (nil : motive []) (none : ∀ r, motive r → motive (none :: r))
    (some : ∀ k v r, motive r → motive (some (k, v) :: r)) : ∀ s, motive s
  | [] => nil
  | .none :: r => none r (slots_induction nil none some r)
  | .some (k, v) :: r => some k v r (slots_induction nil none some r)

theorem lookup_append [DecidableEq K] (x : K) (s t : Slots K V) : lookup x (s ++ t) = (lookup x s).or (lookup x t) := by
  induction s using slots_induction with
  | nil => simp [lookup]
  | none r ih => simpa [lookup] using ih
  | some k' v' r ih => by_cases h : k' = x <;> simp [lookup, h, ih]

end Proofs.Chains
