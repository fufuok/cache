import CacheVerif.Generated.Wrappers
import CacheVerif.Model.Table
import CacheVerif.Model.ProtoApi
import CacheVerif.Proofs.DoCompute
/-!
# The writing methods of `Map` / `MapOf`, as printed from the working tree, are the calls of `doCompute` the models make

`Generated/Wrappers.lean` holds what `Store`, `LoadOrStore`, `LoadAndStore`, `LoadOrCompute`, `Compute`, `LoadAndDelete`,
`Delete` of both files pass to `doCompute` (`Deep/Wrapper.lean`).  Here:
* the sequential table model M3 (`Model.Table.step`) makes exactly those calls (function, `loadIfExists`,
  `computeOnly`, result dropped or returned);
* with `doCompute` meaning `specDc` (what the commit step of M4a implements, `ProtoLin.commit_is_spec_step`), the printed
  arguments of each method give the builtin-map meaning of that method (`Spec.AMap`): new binding of the key, returned
  value, returned flag;
* the wrappers of the two files pass the same things (`twins`), and the operations the trace acceptor of M4a starts
  (`Model.Proto.api`, hand-written) are those calls (`api_is_wrappers`).
-/
namespace Proofs.Wrappers
open Spec Deep Model.Table Proofs.ProtoLin

variable {K V : Type} [DecidableEq K] [Inhabited V]

/-! ## M3 makes the calls the wrappers make -/
section m3
variable (var : Variant) (env : Env K) (m : St K V) (k : K) (v : V) (g : Option V → V × Bool)

def viaWrapper (w : Wrapper) (value : V) (calls : Nat) : St K V × MRes K V :=
  wrap m (doCompute var env m k (w.fnOf value g) w.lie w.co (fuelFor m)) calls (!w.returns)

theorem table_store : step var env m (.store k v) = viaWrapper var env m k g Gen.Deep.Map_Store v 0 ∧
    step var env m (.store k v) = viaWrapper var env m k g Gen.Deep.MapOf_Store v 0 := ⟨rfl, rfl⟩
theorem table_loadOrStore : step var env m (.loadOrStore k v) = viaWrapper var env m k g Gen.Deep.Map_LoadOrStore v 0 ∧
    step var env m (.loadOrStore k v) = viaWrapper var env m k g Gen.Deep.MapOf_LoadOrStore v 0 := ⟨rfl, rfl⟩
theorem table_loadAndStore : step var env m (.loadAndStore k v) = viaWrapper var env m k g Gen.Deep.Map_LoadAndStore v 0 ∧
    step var env m (.loadAndStore k v) = viaWrapper var env m k g Gen.Deep.MapOf_LoadAndStore v 0 := ⟨rfl, rfl⟩
theorem table_loadOrCompute (calls : Nat)
    (hc : calls = if (lookup k (m.tbl.chain (m.tbl.bucketOf var env k))).isSome then 0 else 1) :
    step var env m (.loadOrCompute k v) = viaWrapper var env m k g Gen.Deep.Map_LoadOrCompute v calls ∧
    step var env m (.loadOrCompute k v) = viaWrapper var env m k g Gen.Deep.MapOf_LoadOrCompute v calls := by
  subst hc; exact ⟨rfl, rfl⟩
theorem table_compute : step var env m (.compute k g) = viaWrapper var env m k g Gen.Deep.Map_Compute v 1 ∧
    step var env m (.compute k g) = viaWrapper var env m k g Gen.Deep.MapOf_Compute v 1 := ⟨rfl, rfl⟩
theorem table_loadAndDelete : step var env m (.loadAndDelete k) = viaWrapper var env m k g Gen.Deep.Map_LoadAndDelete v 0 ∧
    step var env m (.loadAndDelete k) = viaWrapper var env m k g Gen.Deep.MapOf_LoadAndDelete v 0 := ⟨rfl, rfl⟩
theorem table_delete : step var env m (.delete k) = viaWrapper var env m k g Gen.Deep.Map_Delete v 0 ∧
    step var env m (.delete k) = viaWrapper var env m k g Gen.Deep.MapOf_Delete v 0 := ⟨rfl, rfl⟩
end m3

/-- why the trace acceptor of M4a can use one table for both files -/
theorem twins : Gen.Deep.Map_Store = Gen.Deep.MapOf_Store ∧ Gen.Deep.Map_LoadOrStore = Gen.Deep.MapOf_LoadOrStore ∧
    Gen.Deep.Map_LoadAndStore = Gen.Deep.MapOf_LoadAndStore ∧ Gen.Deep.Map_LoadOrCompute = Gen.Deep.MapOf_LoadOrCompute ∧
    Gen.Deep.Map_Compute = Gen.Deep.MapOf_Compute ∧ Gen.Deep.Map_LoadAndDelete = Gen.Deep.MapOf_LoadAndDelete ∧
    Gen.Deep.Map_Delete = Gen.Deep.MapOf_Delete := by decide

/-! ## with `doCompute = specDc`, each wrapper is the builtin-map method of its name -/
section spec
variable (m : AMap K V) (k : K) (v : V) (g : Option V → V × Bool)

def viaSpec (w : Wrapper) (value : V) : Option V × V × Bool :=
  let r := specDc (w.fnOf value g) w.lie w.co (m.get k)
  (r.1, r.2.1.getD default, r.2.2)

theorem viaSpec_of (w : Wrapper) {r : AMap K V × V × Bool}
    (hr : Proofs.TableRefine.specDC m k (w.fnOf v g) w.lie w.co = r) :
    (viaSpec m k g w v).1 = r.1.get k ∧ (viaSpec m k g w v).2 = r.2 :=
  have h := Proofs.TableRefine.specDC_eq m k (w.fnOf v g) w.lie w.co
  hr ▸ ⟨h.1.symm, h.2.symm⟩

theorem store_spec (w : Wrapper) (hw : w = Gen.Deep.Map_Store ∨ w = Gen.Deep.MapOf_Store) :
    (viaSpec m k g w v).1 = (AMap.store m k v).get k ∧ w.returns = false := by
  obtain rfl : w = Gen.Deep.Map_Store := hw.elim id (·.trans twins.1.symm)
  have h := viaSpec_of m k v g Gen.Deep.Map_Store ((Proofs.TableRefine.specDC_las m k v).trans (AMap.loadAndStore_eq m k v))
  exact ⟨h.1, rfl⟩

theorem loadOrStore_spec (w : Wrapper) (hw : w = Gen.Deep.Map_LoadOrStore ∨ w = Gen.Deep.MapOf_LoadOrStore) :
    (viaSpec m k g w v).1 = (AMap.loadOrStore m k v).1.get k ∧ (viaSpec m k g w v).2 = (AMap.loadOrStore m k v).2 ∧
    w.returns = true := by
  obtain rfl : w = Gen.Deep.Map_LoadOrStore := hw.elim id (·.trans twins.2.1.symm)
  have h := viaSpec_of m k v g Gen.Deep.Map_LoadOrStore (Proofs.TableRefine.specDC_los m k v)
  exact ⟨h.1, h.2, rfl⟩

theorem loadAndStore_spec (w : Wrapper) (hw : w = Gen.Deep.Map_LoadAndStore ∨ w = Gen.Deep.MapOf_LoadAndStore) :
    (viaSpec m k g w v).1 = (AMap.loadAndStore m k v).1.get k ∧ (viaSpec m k g w v).2 = (AMap.loadAndStore m k v).2 ∧
    w.returns = true := by
  obtain rfl : w = Gen.Deep.Map_LoadAndStore := hw.elim id (·.trans twins.2.2.1.symm)
  have h := viaSpec_of m k v g Gen.Deep.Map_LoadAndStore (Proofs.TableRefine.specDC_las m k v)
  exact ⟨h.1, h.2, rfl⟩

/-- `v` is what the user function returns; it is used only when the key is absent -/
theorem loadOrCompute_spec (w : Wrapper) (hw : w = Gen.Deep.Map_LoadOrCompute ∨ w = Gen.Deep.MapOf_LoadOrCompute) :
    (viaSpec m k g w v).1 = (AMap.loadOrStore m k v).1.get k ∧ (viaSpec m k g w v).2 = (AMap.loadOrStore m k v).2 ∧
    w.returns = true := by
  obtain rfl : w = Gen.Deep.Map_LoadOrCompute := hw.elim id (·.trans twins.2.2.2.1.symm)
  have h := viaSpec_of m k v g Gen.Deep.Map_LoadOrCompute (Proofs.TableRefine.specDC_los m k v)
  exact ⟨h.1, h.2, rfl⟩

theorem compute_spec (w : Wrapper) (hw : w = Gen.Deep.Map_Compute ∨ w = Gen.Deep.MapOf_Compute) :
    (viaSpec m k g w v).1 = (AMap.compute m k g).1.get k ∧ (viaSpec m k g w v).2 = (AMap.compute m k g).2 ∧
    w.returns = true := by
  obtain rfl : w = Gen.Deep.Map_Compute := hw.elim id (·.trans twins.2.2.2.2.1.symm)
  have h := viaSpec_of m k v g Gen.Deep.Map_Compute (Proofs.TableRefine.specDC_compute m k g)
  exact ⟨h.1, h.2, rfl⟩

theorem loadAndDelete_spec (w : Wrapper) (hw : w = Gen.Deep.Map_LoadAndDelete ∨ w = Gen.Deep.MapOf_LoadAndDelete) :
    (viaSpec m k g w v).1 = (AMap.loadAndDelete m k).1.get k ∧ (viaSpec m k g w v).2 = (AMap.loadAndDelete m k).2 ∧
    w.returns = true := by
  obtain rfl : w = Gen.Deep.Map_LoadAndDelete := hw.elim id (·.trans twins.2.2.2.2.2.1.symm)
  have h := viaSpec_of m k v g Gen.Deep.Map_LoadAndDelete (Proofs.TableRefine.specDC_lad m k)
  exact ⟨h.1, h.2, rfl⟩

theorem delete_spec (w : Wrapper) (hw : w = Gen.Deep.Map_Delete ∨ w = Gen.Deep.MapOf_Delete) :
    (viaSpec m k g w v).1 = (AMap.loadAndDelete m k).1.get k ∧ w.returns = false := by
  obtain rfl : w = Gen.Deep.Map_Delete := hw.elim id (·.trans twins.2.2.2.2.2.2.symm)
  have h := viaSpec_of m k v g Gen.Deep.Map_Delete (Proofs.TableRefine.specDC_lad m k)
  exact ⟨h.1, rfl⟩

end spec

set_option linter.unusedSectionVars false in -- `[DecidableEq K]` is not used: `C03_C04_model_ops_are_methods` passes it on
/-- **the operations the trace acceptor of M4a starts** (`Model.Proto.api`, hand-written) **are the calls of `doCompute` the
methods printed from the working tree make** -/
theorem api_is_wrappers (k : K) (x : V) (g : Option V → V × Bool) :
    Model.Proto.api "store" k x g = some (.dc k (Gen.Deep.Map_Store.fnOf x g) Gen.Deep.Map_Store.lie Gen.Deep.Map_Store.co) ∧
    Model.Proto.api "loadorstore" k x g = some (.dc k (Gen.Deep.Map_LoadOrStore.fnOf x g) Gen.Deep.Map_LoadOrStore.lie Gen.Deep.Map_LoadOrStore.co) ∧
    Model.Proto.api "loadandstore" k x g = some (.dc k (Gen.Deep.Map_LoadAndStore.fnOf x g) Gen.Deep.Map_LoadAndStore.lie Gen.Deep.Map_LoadAndStore.co) ∧
    Model.Proto.api "loadorcompute" k x g = some (.dc k (Gen.Deep.Map_LoadOrCompute.fnOf x g) Gen.Deep.Map_LoadOrCompute.lie Gen.Deep.Map_LoadOrCompute.co) ∧
    Model.Proto.api "compute" k x g = some (.dc k (Gen.Deep.Map_Compute.fnOf x g) Gen.Deep.Map_Compute.lie Gen.Deep.Map_Compute.co) ∧
    Model.Proto.api "loadanddelete" k x g = some (.dc k (Gen.Deep.Map_LoadAndDelete.fnOf x g) Gen.Deep.Map_LoadAndDelete.lie Gen.Deep.Map_LoadAndDelete.co) ∧
    Model.Proto.api "delete" k x g = some (.dc k (Gen.Deep.Map_Delete.fnOf x g) Gen.Deep.Map_Delete.lie Gen.Deep.Map_Delete.co) :=
  ⟨rfl, rfl, rfl, rfl, rfl, rfl, rfl⟩

end Proofs.Wrappers
