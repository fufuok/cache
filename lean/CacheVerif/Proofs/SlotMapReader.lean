import CacheVerif.Proofs.SlotMapRep
/-!
# M4b (Map): the per-reader invariant of the three-read snapshot

`RdInv Seen g l`, with the ghost set `Seen` of logical contents of the reader's key witnessed since the start of its
lookup: what the current content, the scan position (`notPassed`, through `SlotScheme.Ahead`) and the pointers the reader
holds (`PcInv`) have to do with `Seen`.
-/
set_option linter.unusedSectionVars false
namespace Proofs.SlotMapHindsight
open Model.SlotMap Proofs.SlotScheme

variable {K V : Type} [DecidableEq K] (top : K → Nat)

def SlotSeen (Seen : Option V → Prop) (g : G K V) (k : K) (b i : Nat) : Prop :=
  ∀ kp vp, (getSlot g b i).keyp = some kp → (getSlot g b i).valp = some vp → g.keyHeap kp = some k →
    Seen (g.valHeap vp)

/-- the scan position has not yet gone past slot `(b0,i0)`.  At `rdKey` the head candidate counts as not passed only if
the value pointer read from it was not nil: after a nil read the reader moves on whatever the key read gives (`rstep`),
and nothing is lost, since a slot that holds the key has a value pointer (`holds_present`) -/
def notPassed : RPc → Nat → Nat → Prop
  | .rdWord b, b0, _ => b ≤ b0
  | .rdVal b cs, b0, i0 => b < b0 ∨ (b = b0 ∧ i0 ∈ cs)
  | .rdKey b cs vp, b0, i0 => b < b0 ∨ (b = b0 ∧ (i0 ∈ cs.tail ∨ (cs.head? = some i0 ∧ vp.isSome)))
  | .rdVal2 b cs _, b0, i0 => b < b0 ∨ (b = b0 ∧ i0 ∈ cs)
  | .rdNext b, b0, _ => b < b0
  | .done, _, _ => True

/-- What the reader knows, pc by pc, about the pointers it holds.
* `rdVal`, `rdKey`, `rdVal2`: `SlotSeen` of every remaining candidate, set up at the word read, where the candidates are
  present slots (`slotSeen_of_present`).
* `rdKey`: the value pointer read, unless nil, is a used one (`vpOK`: it came out of a slot, `RI.vptr`).
* `rdVal2 b (i :: _) vp` carries the three-read argument: if slot `(b,i)` still has `vp`, the value in `vp` was seen.  It
  is set up at the key read, from `SlotSeen` of that slot (the key cell read holds `k`).  Across a writer step it survives
  only through `valp_back`: a slot that has `vp` after the step had it before, because no store puts a used pointer into
  a slot - which is what `vpOK` is for: `vp` is allocated, so it is not the fresh cell of `update` / `append`, and it is
  not the cell a pending insert has still to publish (`finInsVal`).
* `done`: the result was seen. -/
def PcInv (Seen : Option V → Prop) (g : G K V) (k : K) : RPc → Option V → Prop
  | .rdWord _, _ => True
  | .rdVal b cs, _ => ∀ i ∈ cs, SlotSeen Seen g k b i
  | .rdKey b cs vp, _ => (∀ i ∈ cs, SlotSeen Seen g k b i) ∧ ∀ p, vp = some p → vpOK g p
  | .rdVal2 b cs vp, _ =>
    (∀ i ∈ cs, SlotSeen Seen g k b i) ∧ vpOK g vp ∧
      ∀ i, cs.head? = some i → (getSlot g b i).valp = some vp → Seen (g.valHeap vp)
  | .rdNext _, _ => True
  | .done, r => Seen r

structure RdInv (Seen : Option V → Prop) (g : G K V) (l : RL K V) : Prop where
  cur : Seen (content top g l.key)
  ahead : Ahead Seen (fun b i => slotHolds top g b i l.key) (notPassed l.pc)
  pcinv : PcInv Seen g l.key l.pc l.result

theorem RdInv.done {Seen : Option V → Prop} {g : G K V} {l : RL K V} (h : RdInv top Seen g l) (hd : l.pc = .done) :
    Seen l.result := by
  have := h.pcinv
  rwa [hd] at this

theorem rdInv_start (g : G K V) (k : K) :
    RdInv top (fun v => v = content top g k) g { key := k, pc := .rdWord 0, result := none } :=
  ⟨rfl, Or.inr (fun _ _ _ => Nat.zero_le _), trivial⟩

theorem slotSeen_of_present {Seen : Option V → Prop} {g : G K V} {k : K} {b i : Nat} (ri : RI top g)
    (hSeen : Seen (content top g k)) (hp : (getSlot g b i).present = true) : SlotSeen Seen g k b i := by
  intro kp vp h1 h2 h3
  obtain ⟨v, hv⟩ := Option.isSome_iff_exists.mp (ri.vptr b i vp h2).2
  have htop := ri.topOK b i kp k hp h1 h3
  rw [content_some_of_holds top g ri.lenS ri.uniq
    ((slotHolds_eq_some_iff top g b i k v).mpr ⟨kp, vp, h1, h2, h3, hv, hp, htop⟩), ← hv] at hSeen
  exact hSeen

theorem holds_present {g : G K V} {k : K} {b i : Nat} (h : slotHolds top g b i k ≠ none) :
    (getSlot g b i).present = true ∧ (getSlot g b i).top = top k ∧ (getSlot g b i).valp.isSome ∧
      ∃ kp, (getSlot g b i).keyp = some kp ∧ g.keyHeap kp = some k := by
  rw [slotHolds_ne_none_iff] at h
  obtain ⟨v, kp, vp, h1, h2, h3, h4, h5, h6⟩ := h
  exact ⟨h5, h6, by rw [h2]; rfl, kp, h1, h3⟩

theorem slotSeen_step {g g' : G K V} (hw : WR top g g') (ri : RI top g) (ri' : RI top g') {Seen Seen' : Option V → Prop}
    (hsub : ∀ v, Seen v → Seen' v) (k : K) (hc' : Seen' (content top g' k)) :
    ∀ b0 i0, SlotSeen Seen g k b0 i0 → SlotSeen Seen' g' k b0 i0 := by
  have hm := hw.heapMono
  have hsame : ∀ b0 i0, (getSlot g' b0 i0).keyp = (getSlot g b0 i0).keyp →
      (getSlot g' b0 i0).valp = (getSlot g b0 i0).valp → SlotSeen Seen g k b0 i0 → SlotSeen Seen' g' k b0 i0 := by
    intro b0 i0 e1 e2 hq kp vp h1 h2 h3
    rw [e1] at h1; rw [e2] at h2
    rw [(hm.2 kp (ri.kptr b0 i0 kp h1).1).1] at h3
    rw [(hm.2 vp (ri.vptr b0 i0 vp h2).1.1).2]
    exact hsub _ (hq kp vp h1 h2 h3)
  have hother : ∀ {b i s'}, SlotUpd g g' b i s' → ∀ b0 i0, ¬(b0 = b ∧ i0 = i) → SlotSeen Seen g k b0 i0 → SlotSeen Seen' g' k b0 i0 :=
    fun upd b0 i0 hne => hsame b0 i0 (by rw [upd.other b0 i0 hne]) (by rw [upd.other b0 i0 hne])
  have hpend := ri.pend
  unfold PendOK at hpend
  cases hw with
  | insWord b i k1 v hp hb hi hk hv hpr hc upd kh vh np pd =>
    refine forall_slots (fun _ kp vp h1 => ?_) (hother upd)
    rw [upd.at_] at h1; simp [hk] at h1
  | finInsVal b i kp vp hp upd kh vh np pd =>
    rw [hp] at hpend
    refine forall_slots (fun _ kp vp h1 => ?_) (hother upd)
    rw [upd.at_] at h1; simp [hpend.2.2.1] at h1
  | finInsKey b i kp hp upd kh vh np pd =>
    rw [hp] at hpend
    exact forall_slots (fun _ => slotSeen_of_present top ri' hc' (by rw [upd.at_]; exact hpend.2.2.2.2.1)) (hother upd)
  | finDelVal b i hp upd kh vh np pd =>
    refine forall_slots (fun _ kp vp _ h2 => ?_) (hother upd)
    rw [upd.at_] at h2; cases h2
  | finDelKey b i hp upd kh vh np pd =>
    refine forall_slots (fun _ kp vp h1 => ?_) (hother upd)
    rw [upd.at_] at h1; cases h1
  | delWord b i hp hb hi hpr hk hv upd kh vh np pd =>
    exact forall_slots (hsame b i (by rw [upd.at_]) (by rw [upd.at_])) (hother upd)
  | update b i v hp hb hi hpr hk hv upd kh vh np pd =>
    exact forall_slots (fun _ => slotSeen_of_present top ri' hc' (by rw [upd.at_]; exact hpr)) (hother upd)
  | append k1 v hp hc upd len kh vh np pd =>
    exact forall_slots (fun _ => slotSeen_of_present top ri' hc' (by rw [upd.at_])) (hother upd)

theorem valp_back {g g' : G K V} (hw : WR top g g') (vp : Ptr) (hv : vpOK g vp) :
    ∀ b0 i0, (getSlot g' b0 i0).valp = some vp → (getSlot g b0 i0).valp = some vp := by
  have hother : ∀ {b i s'}, SlotUpd g g' b i s' → ∀ b0 i0, ¬(b0 = b ∧ i0 = i) →
      (getSlot g' b0 i0).valp = some vp → (getSlot g b0 i0).valp = some vp :=
    fun upd b0 i0 hne h => by rw [upd.other b0 i0 hne] at h; exact h
  cases hw with
  | finInsVal b i kp vp' hp upd kh vh np pd =>
    refine forall_slots (fun h => ?_) (hother upd)
    rw [upd.at_] at h; cases h
    exact absurd hp (hv.2 _ _ _)
  | finDelVal b i hp upd kh vh np pd =>
    exact forall_slots (fun h => by rw [upd.at_] at h; cases h) (hother upd)
  | update b i v hp hb hi hpr hk hv' upd kh vh np pd =>
    refine forall_slots (fun h => ?_) (hother upd)
    rw [upd.at_] at h; cases h
    exact absurd hv.1 (Nat.lt_irrefl _)
  | append k1 v hp hc upd len kh vh np pd =>
    refine forall_slots (fun h => ?_) (hother upd)
    rw [upd.at_] at h; cases h
    have := hv.1; pomega
  | _ =>
    -- the other steps (word stores, key stores) leave the value pointer of their slot alone
    rename_i upd kh vh np pd
    exact forall_slots (fun h => by rw [upd.at_] at h; exact h) (hother upd)

theorem rdInv_wstep {g g' : G K V} (hw : WR top g g') (ri : RI top g) (ri' : RI top g')
    {Seen Seen' : Option V → Prop} (hsub : ∀ v, Seen v → Seen' v) (l : RL K V) (hc' : Seen' (content top g' l.key))
    (h : RdInv top Seen g l) : RdInv top Seen' g' l := by
  obtain ⟨b, i, s', upd⟩ := hw.slotUpd
  obtain ⟨k, pc, res⟩ := l
  refine ⟨hc', h.ahead.store (slotHolds_other top upd hw.heapMono ri k) (ri'.uniq k) hsub
    fun ha => (content_none_iff top g k ri.lenS).mpr ha ▸ h.cur, ?_⟩
  have hss := slotSeen_step top hw ri ri' hsub k hc'
  have hpc := h.pcinv
  cases pc with
  | rdWord b => trivial
  | rdNext b => trivial
  | done => exact hsub _ hpc
  | rdVal b cs => exact fun i hi => hss b i (hpc i hi)
  | rdKey b cs vp => exact ⟨fun i hi => hss b i (hpc.1 i hi), fun p hp => vpOK_step top hw p (hpc.2 p hp)⟩
  | rdVal2 b cs vp =>
    obtain ⟨h1, h2, h3⟩ := hpc
    refine ⟨fun i hi => hss b i (h1 i hi), vpOK_step top hw vp h2, fun i hi hv => ?_⟩
    rw [(hw.heapMono.2 vp h2.1).2]
    exact hsub _ (h3 i hi (valp_back top hw vp h2 b i hv))

/-! ## reader steps -/

theorem mem_candidates (g : G K V) (b i h : Nat) :
    i ∈ candidates (g.buckets.getD b []) h ↔
      i < S ∧ (getSlot g b i).present = true ∧ (getSlot g b i).top = h := by
  unfold candidates getSlot
  simp [List.mem_filter, List.mem_range]

theorem rstep_rdKey (g : G K V) (k : K) (res : Option V) (b i : Nat) (rest : List Nat) (vp : Option Ptr) :
    (∃ kp vp', (getSlot g b i).keyp = some kp ∧ vp = some vp' ∧ g.keyHeap kp = some k ∧
        rstep top g ⟨k, .rdKey b (i :: rest) vp, res⟩ = ⟨k, .rdVal2 b (i :: rest) vp', res⟩) ∨
    ((∀ kp vp', (getSlot g b i).keyp = some kp → vp = some vp' → g.keyHeap kp ≠ some k) ∧
        rstep top g ⟨k, .rdKey b (i :: rest) vp, res⟩ = ⟨k, .rdVal b rest, res⟩) := by
  cases hk : (getSlot g b i).keyp with
  | none => right; exact ⟨fun _ _ h => (by cases h), by simp only [rstep, hk]⟩
  | some kp =>
    cases vp with
    | none => right; exact ⟨fun _ _ _ h => (by cases h), by simp only [rstep, hk]⟩
    | some vp' =>
      by_cases hkey : g.keyHeap kp = some k
      · left; exact ⟨kp, vp', rfl, rfl, hkey, by simp only [rstep, hk, hkey, if_true]⟩
      · right
        refine ⟨fun kp' _ h _ => by injection h with h; subst h; exact hkey, by simp only [rstep, hk, hkey, if_false]⟩

theorem rdInv_rstep {Seen : Option V → Prop} (g : G K V) (l : RL K V) (ri : RI top g) (h : RdInv top Seen g l) :
    RdInv top Seen g (rstep top g l) := by
  obtain ⟨k, pc, res⟩ := l
  obtain ⟨hcur, hph, hpc⟩ := h
  dsimp only at hcur hph hpc
  cases pc with
  | rdWord b =>
    simp only [rstep]
    refine ⟨hcur, hph.mono fun b0 i0 hh (hle : b ≤ b0) => ?_, ?_⟩
    · show b < b0 ∨ (b = b0 ∧ i0 ∈ candidates (g.buckets.getD b []) (top k))
      by_cases hb : b = b0
      · subst hb
        obtain ⟨hp, ht, _, _⟩ := holds_present top hh
        exact Or.inr ⟨rfl, (mem_candidates g b i0 _).mpr ⟨(present_inRange g b i0 ri.lenS hp).2, hp, ht⟩⟩
      · left; omega
    · show ∀ i ∈ candidates (g.buckets.getD b []) (top k), SlotSeen Seen g k b i
      intro i hi; exact slotSeen_of_present top ri hcur ((mem_candidates g b i _).mp hi).2.1
  | rdVal b cs =>
    cases cs with
    | nil =>
      simp only [rstep]
      exact ⟨hcur, hph.mono fun b0 i0 _ (h : b < b0 ∨ (b = b0 ∧ i0 ∈ [])) =>
        h.resolve_right fun h' => List.not_mem_nil h'.2, trivial⟩
    | cons i rest =>
      simp only [rstep]
      refine ⟨hcur, hph.mono fun b0 i0 hh (h : b < b0 ∨ (b = b0 ∧ i0 ∈ i :: rest)) => ?_,
        ⟨hpc, fun p hp => (ri.vptr b i p hp).1⟩⟩
      show b < b0 ∨ (b = b0 ∧ (i0 ∈ rest ∨ (some i = some i0 ∧ (getSlot g b i).valp.isSome)))
      rcases h with hlt | ⟨rfl, hm⟩
      · exact Or.inl hlt
      · rcases List.mem_cons.mp hm with rfl | hm
        · exact Or.inr ⟨rfl, Or.inr ⟨rfl, (holds_present top hh).2.2.1⟩⟩
        · exact Or.inr ⟨rfl, Or.inl hm⟩
  | rdKey b cs vp =>
    cases cs with
    | nil =>
      simp only [rstep]
      refine ⟨hcur, hph.mono fun b0 i0 _ h => ?_, trivial⟩
      simpa [notPassed] using h
    | cons i rest =>
      rcases rstep_rdKey top g k res b i rest vp with ⟨kp, vp', hk, rfl, hkey, hr⟩ | ⟨hno, hr⟩
      · rw [hr]
        refine ⟨hcur, hph.mono fun b0 i0 _ (h : b < b0 ∨ (b = b0 ∧ (i0 ∈ rest ∨ (some i = some i0 ∧ _)))) => ?_,
          ⟨hpc.1, hpc.2 vp' rfl, ?_⟩⟩
        · show b < b0 ∨ (b = b0 ∧ i0 ∈ i :: rest)
          rcases h with hlt | ⟨rfl, hm | ⟨he, _⟩⟩
          · exact Or.inl hlt
          · exact Or.inr ⟨rfl, List.mem_cons_of_mem _ hm⟩
          · cases he; exact Or.inr ⟨rfl, List.mem_cons_self⟩
        · intro i' hi' hv
          cases hi'
          exact hpc.1 i List.mem_cons_self kp vp' hk hv hkey
      · rw [hr]
        refine ⟨hcur, hph.mono fun b0 i0 hh (h : b < b0 ∨ (b = b0 ∧ (i0 ∈ rest ∨ (some i = some i0 ∧ vp.isSome)))) => ?_,
          fun i' hi' => hpc.1 i' (List.mem_cons_of_mem _ hi')⟩
        show b < b0 ∨ (b = b0 ∧ i0 ∈ rest)
        rcases h with hlt | ⟨rfl, hm | ⟨he, hs⟩⟩
        · exact Or.inl hlt
        · exact Or.inr ⟨rfl, hm⟩
        · cases he
          obtain ⟨vp', rfl⟩ := Option.isSome_iff_exists.mp hs
          obtain ⟨_, _, _, kp, hk, hkey⟩ := holds_present top hh
          exact absurd hkey (hno kp vp' hk rfl)
  | rdVal2 b cs vp =>
    cases cs with
    | nil =>
      simp only [rstep]
      exact ⟨hcur, hph.mono fun b0 i0 _ (h : b < b0 ∨ (b = b0 ∧ i0 ∈ [])) =>
        h.resolve_right fun h' => List.not_mem_nil h'.2, trivial⟩
    | cons i rest =>
      by_cases hv : (getSlot g b i).valp = some vp
      · simp only [rstep, hv, if_true]
        exact ⟨hcur, hph.mono fun _ _ _ _ => trivial, hpc.2.2 i rfl hv⟩
      · simp only [rstep, hv, if_false]
        exact ⟨hcur, hph, hpc.1⟩
  | rdNext b =>
    by_cases hb : b + 1 < g.buckets.length
    · simp only [rstep, hb, if_true]
      exact ⟨hcur, hph.mono fun b0 i0 _ (h : b < b0) => h, trivial⟩
    · simp only [rstep, hb, if_false]
      refine ⟨hcur, hph.mono fun _ _ _ _ => trivial,
        hph.absent (fun ha => (content_none_iff top g k ri.lenS).mpr ha ▸ hcur) fun b0 i0 hh (h1 : b < b0) => ?_⟩
      have h2 := (present_inRange g b0 i0 ri.lenS (holds_present top hh).1).1
      omega
  | done => exact ⟨hcur, hph, hpc⟩

theorem rstep_key (g : G K V) (l : RL K V) : (rstep top g l).key = l.key := by
  unfold rstep
  repeat' split
  all_goals rfl

end Proofs.SlotMapHindsight
