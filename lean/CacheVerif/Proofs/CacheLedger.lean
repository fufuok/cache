import CacheVerif.Proofs.CacheRefine
/-!
# Physical facts about M2: what `DeleteExpired` and `GetAndDelete` / `Delete` erase and fire (C06)

The sweep of `DeleteExpired` over a duplicate-free snapshot whose entries are still in the map (`sweep_gen`; over the
map itself: `sweep_spec`) erases exactly the entries expired at the pass's clock (`deadAt`) and, when a callback is
installed, collects them in snapshot order.  The stored content and the callbacks after the sequential step follow.
-/
set_option linter.unusedSectionVars false
namespace Proofs.CacheLedger
open Spec Spec.AMap Model Model.Cache Proofs.LeafCache Proofs.CacheRefine

variable {K V : Type} [DecidableEq K] [Inhabited V]

def deadAt (now : Int) (m : AMap K (Item V)) : List (K × Item V) := vfilter m fun i => TTL.expired i.e now

theorem mem_deadAt {now : Int} {m : AMap K (Item V)} (hw : AMap.WF m) (k : K) (i : Item V) :
    (k, i) ∈ deadAt now m ↔ m.get k = some i ∧ TTL.expired i.e now = true := by
  rw [deadAt, mem_vfilter, mem_iff_get m hw]

theorem compute_sweepFn_dead (now : Int) (m : AMap K (Item V)) (k : K) (c : Item V) (hg : m.get k = some c)
    (hc : TTL.expired c.e now = true) : (m.compute k (sweepFn now)).1 = m.erase k := by
  simp [compute_eq, hg, sweepFn, item_expiredWithNow_eq, hc]

theorem sweep_WF (now : Int) (hasCb : Bool) (snap : List (K × Item V)) (acc : AMap K (Item V) × List (K × V))
    (hw : AMap.WF acc.1) : AMap.WF (sweep now hasCb snap acc).1 := by
  induction snap generalizing acc with
  | nil => exact hw
  | cons p rest ih =>
    unfold sweep
    split
    · exact ih _ (WF_compute _ _ _ hw)
    · exact ih _ hw

theorem sweep_gen (now : Int) (hasCb : Bool) (snap : List (K × Item V)) :
    ∀ (acc : AMap K (Item V) × List (K × V)), AMap.WF snap →
      (∀ p ∈ snap, acc.1.get p.1 = some p.2) →
      (∀ k, ((sweep now hasCb snap acc).1).get k =
          match AMap.get snap k with
          | some i => if TTL.expired i.e now then none else acc.1.get k
          | none => acc.1.get k) ∧
      (sweep now hasCb snap acc).2 =
        acc.2 ++ (if hasCb then (deadAt now snap).map (fun p => (p.1, p.2.v)) else []) := by
  induction snap with
  | nil =>
    intro acc _ _
    refine ⟨fun k => rfl, ?_⟩
    cases hasCb <;> simp [sweep, deadAt]
  | cons p rest ih =>
    obtain ⟨k, i⟩ := p
    intro acc hs hin
    obtain ⟨hkr, hwr⟩ := (WF_cons k i rest).mp hs
    have hgk : acc.1.get k = some i := hin (k, i) List.mem_cons_self
    unfold sweep
    rw [item_expiredWithNow_eq, deadAt, vfilter_cons]
    by_cases hx : TTL.expired i.e now = true
    · simp only [hx, if_true]
      rw [compute_sweepFn_dead now acc.1 k i hgk hx, hgk]
      simp only [item_expiredWithNow_eq, hx, Bool.true_and]
      obtain ⟨h1, h2⟩ := ih (acc.1.erase k, acc.2 ++ if hasCb = true then [(k, i.v)] else []) hwr fun p hp => by
        show (acc.1.erase k).get p.1 = some p.2
        rw [get_erase_ne _ _ _ (ne_of_get_none hkr hp).symm]
        exact hin p (List.mem_cons_of_mem _ hp)
      refine ⟨fun k' => ?_, ?_⟩
      · rw [h1 k', get_cons]
        by_cases hk : k = k'
        · subst hk
          simp [hkr, hx, get_erase_self]
        · simp only [if_neg hk, get_erase_ne _ _ _ hk]
      · rw [h2]
        cases hasCb <;> simp [deadAt]
    · simp only [hx, Bool.false_eq_true, if_false]
      obtain ⟨h1, h2⟩ := ih acc hwr (fun p hp => hin p (List.mem_cons_of_mem _ hp))
      refine ⟨fun k' => ?_, h2⟩
      rw [h1 k', get_cons]
      by_cases hk : k = k'
      · subst hk
        simp [hkr, hx]
      · simp only [if_neg hk]

theorem sweep_spec (now : Int) (hasCb : Bool) (m : AMap K (Item V)) (hw : AMap.WF m) :
    (∀ k, ((sweep now hasCb m (m, [])).1).get k =
        match m.get k with
        | some i => if TTL.expired i.e now then none else some i
        | none => none) ∧
    (sweep now hasCb m (m, [])).2 = (if hasCb then (deadAt now m).map (fun p => (p.1, p.2.v)) else []) := by
  obtain ⟨h1, h2⟩ := sweep_gen now hasCb m (m, []) hw (fun p hp => get_of_mem m hw p.1 p.2 hp)
  refine ⟨fun k => ?_, by simpa using h2⟩
  rw [h1 k]
  cases hg : m.get k <;> rfl

theorem deleteExpired_cbs (s : St K V) (hw : AMap.WF s.items) :
    (step s .deleteExpired).2.cbs =
      match s.cb with
      | some c => (deadAt s.now s.items).map (fun p => (c, p.1, p.2.v))
      | none => [] := by
  obtain ⟨_, h2⟩ := sweep_spec s.now s.cb.isSome s.items hw
  simp only [step]
  cases hc : s.cb with
  | none => rfl
  | some c =>
    rw [hc] at h2
    simp only [Option.isSome_some, if_true] at h2 ⊢
    rw [h2, List.map_map]
    rfl

theorem deleteExpired_get (s : St K V) (hw : AMap.WF s.items) (k : K) :
    (step s .deleteExpired).1.items.get k = lget s k :=
  (sweep_spec s.now s.cb.isSome s.items hw).1 k

theorem deleteExpired_WF (s : St K V) (hw : AMap.WF s.items) : AMap.WF (step s .deleteExpired).1.items :=
  sweep_WF s.now s.cb.isSome s.items (s.items, []) hw

theorem getAndDelete_items (s : St K V) (k : K) :
    (getAndDelete s k).1.items.get k = none ∧
    ∀ k', k' ≠ k → (getAndDelete s k).1.items.get k' = s.items.get k' := by
  rw [getAndDelete_fst]
  exact ⟨get_erase_self _ _, fun k' hk => get_erase_ne _ _ _ (Ne.symm hk)⟩

theorem getAndDelete_cbs (s : St K V) (k : K) :
    (getAndDelete s k).2.cbs =
      (match s.items.get k, s.cb with
       | some i, some c => [(c, k, i.v)]
       | _, _ => []) := by
  unfold getAndDelete
  cases s.items.get k <;> cases s.cb <;> rfl

end Proofs.CacheLedger
