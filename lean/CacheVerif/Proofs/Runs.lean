/-!
# Runs

Every model runs a list of actions through an `Option`-valued step (`none`: the action is not enabled), which is
`List.foldlM`.  Each model states that of its own `run` once (`run_eq_foldlM`); appending schedules is then core's
`List.foldlM_append`, and what holds along a run is proved here once: an invariant kept by the steps of the run, and
hindsight along a run with a growing ghost set of witnessed values.
-/
namespace Proofs.Runs
variable {σ α β : Type} (step : σ → α → Option σ)

theorem foldlM_cons_eq_some {a : α} {as : List α} {s s' : σ} :
    (a :: as).foldlM step s = some s' ↔ ∃ s1, step s a = some s1 ∧ as.foldlM step s1 = some s' := by
  rw [List.foldlM_cons, Option.bind_eq_bind, Option.bind_eq_some_iff]

theorem eq_foldlM (run : σ → List α → Option σ) (hnil : ∀ s, run s [] = some s)
    (hcons : ∀ s a as, run s (a :: as) = (step s a).bind fun s' => run s' as) :
    ∀ as s, run s as = as.foldlM step s := by
  intro as
  induction as with
  | nil => exact hnil
  | cons a as ih => intro s; rw [hcons, List.foldlM_cons, Option.bind_eq_bind]; exact congrArg _ (funext ih)

theorem foldlM_invariant (P : σ → Prop) :
    ∀ (as : List α), (∀ a ∈ as, ∀ s s', P s → step s a = some s' → P s') →
      ∀ s s', P s → as.foldlM step s = some s' → P s' := by
  intro as
  induction as with
  | nil => intro _ s s' h e; cases e; exact h
  | cons a as ih =>
    intro hstep s s' h e
    obtain ⟨s1, h1, e1⟩ := (foldlM_cons_eq_some step).mp e
    exact ih (fun b hb => hstep b (List.mem_cons_of_mem _ hb)) s1 s' (hstep a List.mem_cons_self s s1 h h1) e1

/-- **Hindsight along a run.**  `I W s` is an invariant carrying a ghost set `W` of witnessed values, and every
permitted step keeps it with at most `cur` of the state it reaches added to `W`.  Then the invariant holds at the
end of the run for a `W'` whose new members are all values `cur` had at states the run went through. -/
theorem foldlM_hindsight (cur : σ → β) (I : (β → Prop) → σ → Prop) (ok : α → Prop)
    (hstep : ∀ W s a s', ok a → I W s → step s a = some s' → ∃ W', I W' s' ∧ ∀ v, W' v → W v ∨ v = cur s') :
    ∀ (as : List α) (W : β → Prop) (s0 s : σ), (∀ a ∈ as, ok a) → I W s0 → as.foldlM step s0 = some s →
      ∃ W', I W' s ∧ ∀ v, W' v →
        W v ∨ ∃ j, j ≤ as.length ∧ ∃ s', (as.take j).foldlM step s0 = some s' ∧ cur s' = v := by
  intro as
  induction as with
  | nil => intro W s0 s _ h e; cases e; exact ⟨W, h, fun v hv => Or.inl hv⟩
  | cons a as ih =>
    intro W s0 s hok h e
    obtain ⟨s1, h1, e1⟩ := (foldlM_cons_eq_some step).mp e
    obtain ⟨W1, hI1, hW1⟩ := hstep W s0 a s1 (hok a List.mem_cons_self) h h1
    obtain ⟨W', hI', hW'⟩ := ih W1 s1 s (fun a' ha' => hok a' (List.mem_cons_of_mem _ ha')) hI1 e1
    refine ⟨W', hI', fun v hv => ?_⟩
    rcases hW' v hv with hv1 | ⟨j, hj, s', hr, hc⟩
    · rcases hW1 v hv1 with hv0 | rfl
      · exact Or.inl hv0
      · exact Or.inr ⟨1, by simp, s1, (foldlM_cons_eq_some step).mpr ⟨s1, h1, rfl⟩, rfl⟩
    · exact Or.inr ⟨j + 1, by simp; omega, s', (foldlM_cons_eq_some step).mpr ⟨s1, h1, hr⟩, hc⟩

end Proofs.Runs
