import CacheVerif.Model.ConcCache
import CacheVerif.Proofs.CacheRefine
import CacheVerif.Proofs.ConcCacheStep
/-!
# M5: every concurrent history of cache calls is linearizable against `Spec.TTL` (C02); progress; callbacks (C06)

Forward simulation with fixed linearization points for every call that writes (`Set`: its `Store`; the
read-modify-write calls, `GetAndDelete`/`Delete`, `Clear`, the two setters: their single atomic map/setting
operation) plus a hindsight argument for the `Get` family (the value returned is the abstract binding of the
key at the instant of the lock-free `Load`, an instant inside the call).  The simulation relation is the one
of the sequential refinement (`Proofs.CacheRefine.Sim`) between the concrete shared state and the ghost
abstract state, which changes only at linearization points and at clock ticks.  Where the linearization point is
the sequential step of the call (the read-modify-write calls: `rmw_frame`; `GetAndDelete`/`Delete`: `gd_step`), invariant
and answer come from the sequential refinement (`step_sim`).

Owicki–Gries shape: a global invariant `GI` (the simulation relation) and a per-thread local invariant `LI`.  Of the
globals `LI` mentions only the clock, which no thread step changes (`Step.now`) and a tick only advances (`li_mono`), so
after a step only the stepping thread's `LI` has to be proved again (`li_self`).  Every field of `LI` is guarded by the
control point, so `LI` is an assertion per control point: `LIat`, with `li_at` to establish `LI` on arrival at a pc.  A case
of a step-level proof (a rule of `Proofs.ConcCacheStep.Step`) needs the clause of its source pc and proves the clause of its
target pc.

`gi_step`, `lp_assigns_result` and `gd_fire` have no user: each states for one case (the global invariant after a step; a
linearization point other than `GetWithTTL`'s `Compute`; the firing step of `GetAndDelete`/`Delete`) what `inv_step`,
`lp_result` and `FI` give.
-/
set_option linter.unusedSectionVars false
namespace Proofs.ConcCacheLin
open Spec Model Model.ConcCache Proofs.CacheRefine Proofs.LeafCache Proofs.ConcCacheStep

variable {K V : Type} [DecidableEq K] [Inhabited V]

/-! ## The invariants -/

def GI (g : G K V) : Prop := Sim (view g) g.abs

inductive Cls where | set | get | rmw | gd | de | clear | count | sd | sc
  deriving DecidableEq

def opCls : COp K V → Cls
  | .set .. => .set
  | .get _ | .getWithExpiration _ | .getWithTTL _ => .get
  | .getOrSet .. | .getAndSet .. | .getAndRefresh .. | .getOrCompute .. | .compute .. => .rmw
  | .getAndDelete _ | .delete _ => .gd
  | .deleteExpired => .de
  | .clear => .clear
  | .count => .count
  | .setDefaultExpiration _ => .sd
  | .setEvictedCallback _ => .sc

def pcCls : Pc → Option Cls
  | .idle | .ret => none
  | .setReadDflt | .setReadClock | .setStore => some .set
  | .getLoad | .getChkClock | .getCompute | .getTTLClock => some .get
  | .rmw => some .rmw
  | .gdCompute | .gdReadCb | .gdFire => some .gd
  | .deReadCb | .deReadClock | .deVisit | .deCompute | .deFire => some .de
  | .clClear => some .clear
  | .cntSize => some .count
  | .sdStore => some .sd
  | .scStore => some .sc

def dePass : Pc → Bool
  | .deVisit | .deCompute | .deFire => true
  | _ => false

structure LI (now : Int) (l : L K V) : Prop where
  cls : ∀ c, pcCls l.pc = some c → ∃ op, l.op = some op ∧ opCls op = c
  setD : ∀ k v d, l.op = some (.set k v d) →
      (l.pc = .setReadDflt → d = Gen.DefaultExpiration) ∧
      ((l.pc = .setReadClock ∨ l.pc = .setStore) → d ≠ Gen.DefaultExpiration → l.d = d)
  setE : l.pc = .setStore → ∃ t0, 0 ≤ t0 ∧ t0 ≤ now ∧ l.e = if l.d > 0 then t0 + l.d else 0
  hind : l.pc = .getChkClock → ∃ i, l.loaded = some i ∧ l.nowAtLoad ≤ now ∧
      l.absAtLoad = if TTL.expired i.e l.nowAtLoad then none else some i
  pass : dePass l.pc = true → l.passNow ≤ now
  cur : l.pc = .deCompute → l.cur.isSome = true
  rem : (l.pc = .gdReadCb ∨ l.pc = .gdFire) → ∀ k, opKey l = some k → ∃ i, l.removed = some i ∧ (k, i.v) ∈ l.erased
  que : ∀ p ∈ l.queue, p ∈ l.erased
  cmp : l.pc = .getCompute → l.nowAtLoad ≤ now
  /-- `GetWithTTL` about to read the clock a second time: `t0` is the clock value the call read when it found `i` (at the
  clock check of the hit path, or at the double-checked `Compute`) -/
  ttl : l.pc = .getTTLClock → ∃ i k t0, l.loaded = some i ∧ l.op = some (.getWithTTL k) ∧ 0 < i.e ∧
      l.nowAtLoad ≤ t0 ∧ t0 ≤ now ∧ TTL.expired i.e t0 = false

def InCls (l : L K V) (c : Cls) : Prop := ∃ op, l.op = some op ∧ opCls op = c

/-- `LI` per control point, besides `LI.que`, which holds at every pc -/
def LIat (now : Int) (l : L K V) : Pc → Prop
  | .idle | .ret => True
  | .setReadDflt => InCls l .set ∧ ∀ k v d, l.op = some (.set k v d) → d = Gen.DefaultExpiration
  | .setReadClock => InCls l .set ∧ ∀ k v d, l.op = some (.set k v d) → d ≠ Gen.DefaultExpiration → l.d = d
  | .setStore => InCls l .set ∧ (∀ k v d, l.op = some (.set k v d) → d ≠ Gen.DefaultExpiration → l.d = d) ∧
      ∃ t0, 0 ≤ t0 ∧ t0 ≤ now ∧ l.e = if l.d > 0 then t0 + l.d else 0
  | .getLoad => InCls l .get
  | .getChkClock => InCls l .get ∧ ∃ i, l.loaded = some i ∧ l.nowAtLoad ≤ now ∧
      l.absAtLoad = if TTL.expired i.e l.nowAtLoad then none else some i
  | .getCompute => InCls l .get ∧ l.nowAtLoad ≤ now
  | .getTTLClock => ∃ i k t0, l.loaded = some i ∧ l.op = some (.getWithTTL k) ∧ 0 < i.e ∧
      l.nowAtLoad ≤ t0 ∧ t0 ≤ now ∧ TTL.expired i.e t0 = false
  | .rmw => InCls l .rmw
  | .gdCompute => InCls l .gd
  | .gdReadCb | .gdFire => InCls l .gd ∧ ∀ k, opKey l = some k → ∃ i, l.removed = some i ∧ (k, i.v) ∈ l.erased
  | .deReadCb | .deReadClock => InCls l .de
  | .deVisit | .deFire => InCls l .de ∧ l.passNow ≤ now
  | .deCompute => InCls l .de ∧ l.passNow ≤ now ∧ l.cur.isSome = true
  | .clClear => InCls l .clear
  | .cntSize => InCls l .count
  | .sdStore => InCls l .sd
  | .scStore => InCls l .sc

theorem li_at {now : Int} {l : L K V} (hq : ∀ p ∈ l.queue, p ∈ l.erased) (h : LIat now l l.pc) : LI now l where
  cls c hc := by
    cases hpc : l.pc <;> rw [hpc] at h hc
    case idle | ret => cases hc
    case getTTLClock => cases hc; obtain ⟨_, _, _, _, ho, _⟩ := h; exact ⟨_, ho, rfl⟩
    case getLoad | rmw | gdCompute | deReadCb | deReadClock | clClear | cntSize | sdStore | scStore => cases hc; exact h
    all_goals cases hc; exact h.1
  setD k v d ho := by
    refine ⟨fun hp => ?_, fun hp => ?_⟩
    · rw [hp] at h; exact h.2 k v d ho
    · rcases hp with hp | hp <;> rw [hp] at h
      · exact h.2 k v d ho
      · exact h.2.1 k v d ho
  setE hp := by rw [hp] at h; exact h.2.2
  hind hp := by rw [hp] at h; exact h.2
  pass hp := by
    cases hpc : l.pc <;> rw [hpc] at h hp
    case deVisit | deFire => exact h.2
    case deCompute => exact h.2.1
    all_goals cases hp
  cur hp := by rw [hp] at h; exact h.2.2
  rem hp := by rcases hp with hp | hp <;> rw [hp] at h <;> exact h.2
  que := hq
  cmp hp := by rw [hp] at h; exact h.2
  ttl hp := by rw [hp] at h; exact h

theorem li_mono {now now' : Int} {l : L K V} (h : now ≤ now') (hl : LI now l) : LI now' l :=
  { hl with
    setE := fun hp => by obtain ⟨t0, a, b, c⟩ := hl.setE hp; exact ⟨t0, a, by omega, c⟩
    hind := fun hp => by obtain ⟨i, a, b, c⟩ := hl.hind hp; exact ⟨i, a, by omega, c⟩
    pass := fun hp => by have := hl.pass hp; omega
    cmp := fun hp => by have := hl.cmp hp; omega
    ttl := fun hp => by obtain ⟨i, k, t0, a, b, c, d, e, f⟩ := hl.ttl hp; exact ⟨i, k, t0, a, b, c, d, by omega, f⟩ }

theorem LI.cls_eq {now : Int} {l : L K V} {c : Cls} {op : COp K V} (hl : LI now l) (hp : pcCls l.pc = some c)
    (ho : l.op = some op) : opCls op = c := by
  obtain ⟨_, ho', h⟩ := hl.cls c hp
  cases ho.symm.trans ho'
  exact h

theorem li_startOp {now : Int} {l : L K V} {op : COp K V} : LI now (startOp l op) := by
  refine li_at (by cases op <;> exact fun _ h => nomatch h) ?_
  cases op
  case set k v d =>
    by_cases hd : d = Gen.DefaultExpiration
    · simp only [startOp, hd, if_true]
      exact ⟨⟨_, rfl, rfl⟩, fun _ _ _ h => by cases h; rfl⟩
    · simp only [startOp, hd, if_false]
      exact ⟨⟨_, rfl, rfl⟩, fun _ _ _ h _ => by cases h; rfl⟩
  all_goals exact ⟨_, rfl, rfl⟩

-- no proof uses this (`li_self` goes by the rules of `Step`): it splits an equation `tstep … = some (g', l')` into the
-- branches of `tstep` and tries `simp_all` on each field of `LI`
macro "li_auto " hs:ident : tactic =>
  `(tactic| ((repeat' split at $hs:ident) <;>
    simp only [Option.some.injEq, reduceCtorEq, Prod.mk.injEq] at $hs:ident <;>
    rcases $hs:ident with ⟨hg', hl'⟩ <;> subst hg' <;> subst hl' <;>
    (refine ⟨?_, ?_, ?_, ?_, ?_, ?_, ?_, ?_, ?_, ?_⟩ <;> simp_all [pcCls, dePass, opKey])))

theorem li_self {t : Tid} {g : G K V} {l : L K V} {c : Choice K V} {g' : G K V} {l' : L K V}
    (hg : GI g) (hl : LI g.now l) (hs : tstep t g l c = some (g', l')) : LI g'.now l' := by
  have h := step_of_tstep hs
  rw [h.now]
  have hc : ∀ {c}, pcCls l.pc = some c → InCls l c := hl.cls _
  have hp : dePass l.pc = true → l.passNow ≤ g.now := hl.pass
  generalize hpc : l.pc = p at h
  rw [hpc] at hc hp
  cases h
  case start => exact li_startOp
  case setReadDflt =>
    exact li_at hl.que ⟨hc rfl, fun k v d ho hne => absurd ((hl.setD k v d ho).1 hpc) hne⟩
  case setReadClock =>
    exact li_at hl.que
      ⟨hc rfl, fun k v d ho => (hl.setD k v d ho).2 (Or.inl hpc), g.now, hg.wf.now0, Int.le_refl _, rfl⟩
  case loadHit k op i hk ho hget => exact li_at hl.que ⟨hc rfl, i, rfl, Int.le_refl _, Sim.get_of_some hg hget⟩
  case chkTTL i k hi ho he hpos =>
    obtain ⟨_, _, hn, _⟩ := hl.hind hpc
    exact li_at hl.que ⟨i, k, g.now, rfl, ho, hpos, hn, Int.le_refl _, he⟩
  case chkDead =>
    obtain ⟨_, _, hn, _⟩ := hl.hind hpc
    exact li_at hl.que ⟨hc rfl, hn⟩
  case cmpTTL k i ho hget he hpos => exact li_at hl.que ⟨i, k, g.now, rfl, ho, hpos, hl.cmp hpc, Int.le_refl _, he⟩
  case gdFound k op i hk ho hget =>
    refine li_at (fun p hp => List.mem_append_left _ (hl.que p hp)) ⟨hc rfl, fun k' hk' => ⟨i, rfl, ?_⟩⟩
    cases hk.symm.trans hk'
    exact List.mem_append_right _ (List.mem_singleton.2 rfl)
  case gdReadCb => exact li_at hl.que ⟨hc rfl, hl.rem (Or.inl hpc)⟩
  case deReadCb => exact li_at hl.que (hc rfl)
  case deReadClock => exact li_at (fun _ h => nomatch h) ⟨hc rfl, Int.le_refl _⟩
  case visitEnd | sweepAbsent | sweepLive => exact li_at hl.que ⟨hc rfl, hp rfl⟩
  case visitDead => exact li_at hl.que ⟨hc rfl, hp rfl, rfl⟩
  case visitSkip => exact hl
  case sweepDead k i0 i hcur hget he =>
    refine li_at (fun p hp => ?_) ⟨hc rfl, hp rfl⟩
    rcases List.mem_append.1 hp with hp | hp
    · exact List.mem_append_left _ (hl.que p hp)
    · split at hp
      · exact List.mem_append_right _ hp
      · cases hp
  case deFire k v rest cb hq hec =>
    exact li_at (fun p hp => hl.que p (hq ▸ List.mem_cons_of_mem _ hp)) ⟨hc rfl, hp rfl⟩
  case deDone => exact li_at (fun _ h => nomatch h) trivial
  -- every other rule ends the call (`ret`) or the return (`idle`), where `LIat` asks nothing
  all_goals exact li_at hl.que trivial

theorem gi_erase_dead {g : G K V} (hg : GI g) {k : K} {i : Item V} {pn : Int} (hget : g.items.get k = some i)
    (hpn : pn ≤ g.now) (he : TTL.expired i.e pn = true) : GI { g with items := g.items.erase k } :=
  sim_erase_dead hg k ((hg.get k).trans (by simp only [lget, view, hget, expired_mono i.e pn g.now hpn he, if_true]))

theorem rmw_frame (s : Cache.St K V) {op : COp K V} (h : opCls op = .rmw) :
    (Cache.step s (toSpec op)).1 = { s with items := (Cache.step s (toSpec op)).1.items } ∧
    (Cache.step s (toSpec op)).2.cbs = [] := by
  cases op <;> cases h <;> refine ⟨?_, ?_⟩ <;> simp only [toSpec, Cache.step] <;> (repeat' split) <;> rfl

theorem opKey_gd {l : L K V} {op : COp K V} {k : K} (ho : l.op = some op) (hc : opCls op = .gd) (hk : opKey l = some k) :
    op = .getAndDelete k ∨ op = .delete k := by
  cases op <;> simp only [opCls, reduceCtorEq] at hc <;> simp [opKey, ho] at hk <;> simp [hk]

theorem li_e_nonneg {now : Int} {l : L K V} (hl : LI now l) (hpc : l.pc = .setStore) : 0 ≤ l.e := by
  obtain ⟨t0, h0, _, he⟩ := hl.setE hpc
  rw [he]; split <;> omega

theorem gd_step {g : G K V} {l : L K V} {op : COp K V} {k : K} (ho : l.op = some op) (hc : opCls op = .gd)
    (hk : opKey l = some k) :
    (Cache.step (view g) (toSpec op)).1 = { view g with items := g.items.erase k } ∧
    (Cache.step (view g) (toSpec op)).2.out = gdOut g op (g.items.get k) := by
  rcases opKey_gd ho hc hk with rfl | rfl
  · refine ⟨getAndDelete_fst (view g) k, ?_⟩
    simp only [toSpec, Cache.step, Cache.getAndDelete, view, gdOut]
    cases g.items.get k <;> rfl
  · exact ⟨getAndDelete_fst (view g) k, rfl⟩

theorem gi_tstep {t : Tid} {g : G K V} {l : L K V} {c : Choice K V} {g' : G K V} {l' : L K V}
    (hg : GI g) (hl : LI g.now l) (hs : tstep t g l c = some (g', l')) : GI g' := by
  have h := step_of_tstep hs
  have hc : ∀ {c op}, pcCls l.pc = some c → l.op = some op → opCls op = c := hl.cls_eq
  have hp : dePass l.pc = true → l.passNow ≤ g.now := hl.pass
  generalize hpc : l.pc = p at h
  rw [hpc] at hc hp
  cases h
  case setStore k v d ho =>
    cases he : TTL.expired l.e g.now
    · exact sim_store hg k ⟨v, l.e⟩ (li_e_nonneg hl hpc) he
    · exact sim_store_dead hg k ⟨v, l.e⟩ he
  case cmpDead k _ i _ _ hget he => exact gi_erase_dead hg hget (Int.le_refl _) he
  case cmpHit k _ i _ _ hget _ _ | cmpTTL k i _ hget _ _ | sweepLive k _ i _ hget _ =>
    exact sim_restore hg k i hget
  case rmw op ho =>
    have := (step_sim hg (toSpec op)).1
    rw [(rmw_frame (view g) (hc rfl ho)).1] at this
    exact this
  case gdAbsent k op hk ho _ | gdFound k op _ hk ho _ =>
    have := (step_sim hg (toSpec op)).1
    rw [(gd_step ho (hc rfl ho) hk).1] at this
    exact this
  case sweepDead k _ i _ hget he => exact gi_erase_dead hg hget (hp rfl) he
  case clClear => exact (step_sim hg .clear).1
  case sdStore d ho => exact (step_sim hg (.setDefaultExpiration d)).1
  case scStore cb ho => exact (step_sim hg (.setEvictedCallback cb)).1
  -- the remaining rules change at most the ledger
  all_goals exact hg

def Inv (s : St K V) : Prop := GI s.g ∧ ∀ u, LI s.g.now (s.l u)

theorem inv_init (dflt : Int) (cb : Option Nat) (now : Int) (h0 : 0 ≤ now) : Inv (init (K := K) (V := V) dflt cb now) :=
  ⟨sim_init dflt cb now h0, fun _ => li_at (fun _ h => nomatch h) trivial⟩

theorem inv_step (s s' : St K V) (w : Option Tid) (c : Choice K V) (δ : Nat) (h : Inv s)
    (hs : step s w c δ = some s') : Inv s' := by
  cases w with
  | none =>
    cases step_none hs
    exact ⟨(step_sim h.1 (.tick δ)).1,
      fun u => li_mono (Int.le_add_of_nonneg_right (Int.natCast_nonneg δ)) (h.2 u)⟩
  | some t =>
    obtain ⟨ht, hoth⟩ := step_some hs
    refine ⟨gi_tstep h.1 (h.2 t) ht, fun u => ?_⟩
    by_cases hu : u = t
    · subst hu; exact li_self h.1 (h.2 u) ht
    · rw [hoth u hu, (step_of_tstep ht).now]; exact h.2 u

theorem gi_step (s s' : St K V) (w : Option Tid) (c : Choice K V) (δ : Nat) (h : Inv s)
    (hs : step s w c δ = some s') : GI s'.g := (inv_step s s' w c δ h hs).1

theorem inv_reach {dflt : Int} {cb : Option Nat} {now : Int} {s : St K V} (h0 : 0 ≤ now)
    (hr : Reach dflt cb now s) : Inv s :=
  reach_induction (inv_init dflt cb now h0) inv_step hr

/-- the hypotheses of the step theorems below (`lp_result`, `get_hindsight`, `ledger_only_removed`, …) hold at every thread
step from a reachable state -/
theorem reach_tstep {dflt : Int} {cb : Option Nat} {now : Int} (h0 : 0 ≤ now) {s s' : St K V} {t : Tid}
    {c : Choice K V} {δ : Nat} (hr : Reach dflt cb now s) (hs : step s (some t) c δ = some s') :
    GI s.g ∧ LI s.g.now (s.l t) ∧ tstep t s.g (s.l t) c = some (s'.g, s'.l t) ∧ (∀ u, u ≠ t → s'.l u = s.l u) ∧
    Reach dflt cb now s' :=
  have hi := inv_reach h0 hr
  ⟨hi.1, hi.2 t, (step_some hs).1, (step_some hs).2, reach_step hr hs⟩

/-! ## Linearization points and hindsight (C02) -/

/-- the pcs whose step is a linearization point -/
def lpPc : Pc → Bool
  | .setStore | .rmw | .gdCompute | .clClear | .sdStore | .scStore | .getCompute => true
  | _ => false

/-- the abstract effect of `Set`'s `Store`: "store with the instant computed from the earlier clock reading `t0`" -/
def SetStoreSpec (g : G K V) (l : L K V) (op : COp K V) (g' : G K V) : Prop :=
  ∃ k v d t0, op = .set k v d ∧ 0 ≤ t0 ∧ t0 ≤ g.now ∧ l.e = (if l.d > 0 then t0 + l.d else 0) ∧
    (d ≠ TTL.DefaultExpiration → l.d = d ∧ ∀ dflt, l.e = TTL.expiration d dflt t0) ∧
    g'.abs = { g.abs with live := if TTL.expired l.e g.now then g.abs.live.erase k else g.abs.live.set k ⟨v, l.e⟩ }

theorem opKey_get {l : L K V} {op : COp K V} {k : K} (ho : l.op = some op) (hc : opCls op = .get) (hk : opKey l = some k) :
    op = .get k ∨ op = .getWithExpiration k ∨ op = .getWithTTL k := by
  cases op <;> simp only [opCls, reduceCtorEq] at hc <;> simp [opKey, ho] at hk <;> simp [hk]

theorem get_abs (a : TTL.St K V) {op : COp K V} (hc : opCls op = .get) : (TTL.step a (toSpec op)).1 = a := by
  cases op <;> simp only [opCls, reduceCtorEq] at hc <;> simp only [toSpec, TTL.step] <;> split <;> rfl

theorem step_out {g : G K V} (hg : GI g) (op : COp K V) :
    logical (Cache.step (view g) (toSpec op)).2.out = (TTL.step g.abs (toSpec op)).2.1 := by
  have := (step_sim hg (toSpec op)).2.1
  -- `toSpec` never yields `.range` or `.items`, so `OutRel` is its last branch, `logical m = sp`, for every `op`
  cases op <;> exact this

theorem get_out {g : G K V} (hg : GI g) {l : L K V} {op : COp K V} {k : K} (ho : l.op = some op) (hc : opCls op = .get)
    (hk : opKey l = some k) :
    (g.abs.live.get k = none → (TTL.step g.abs (toSpec op)).2.1 = logical (missResult op)) ∧
    ∀ i, g.abs.live.get k = some i → (TTL.step g.abs (toSpec op)).2.1 = logical (hitResult op i g.now) := by
  have hnow : g.abs.now = g.now := hg.now
  rcases opKey_get ho hc hk with rfl | rfl | rfl <;> refine ⟨fun h => ?_, fun i h => ?_⟩ <;>
    simp only [toSpec, TTL.step, h, missResult, hitResult, logical, hnow, NoExpiration_eq]
  -- left: `GetWithExpiration` reports the stored instant, which is not negative
  have := hg.live_epos h
  congr 1; split <;> omega

/-- **Linearization points return the spec's answer**: the assigned result is (logically) the result of the spec step of
the call on the ghost abstract state, and the ghost abstract state advances by that spec step.  Two exceptions.  `Set`'s
`Store` has the abstract effect `SetStoreSpec`: the stored instant was computed from a clock value read earlier in the call,
so a store whose instant has already passed is logically an erase.  The double-checked `Compute` of a `GetWithTTL` that
finds a binding with an expiration instant does not assign the result: the call keeps the binding and reports at its
`getTTLClock` step (`get_ttl_clock`). -/
theorem lp_result {t : Tid} {g : G K V} {l : L K V} {c : Choice K V} {g' : G K V} {l' : L K V} {op : COp K V}
    (hg : GI g) (hl : LI g.now l) (hlp : lpPc l.pc = true) (ho : l.op = some op)
    (hs : tstep t g l c = some (g', l')) :
    ((l'.pc ≠ .getTTLClock ∧ ∃ res, l'.result = some res ∧ logical res = (TTL.step g.abs (toSpec op)).2.1) ∨
     (∃ k i, l.pc = .getCompute ∧ op = .getWithTTL k ∧ g.abs.live.get k = some i ∧ 0 < i.e ∧
        (TTL.step g.abs (toSpec op)).2.1 = .valTTL i.v (i.e - g.now) true ∧
        l'.pc = .getTTLClock ∧ l'.loaded = some i)) ∧
      (l.pc ≠ .setStore → g'.abs = (TTL.step g.abs (toSpec op)).1) ∧
      (l.pc = .setStore → SetStoreSpec g l op g') := by
  have h := step_of_tstep hs
  have hc : ∀ {c}, pcCls l.pc = some c → opCls op = c := (hl.cls_eq · ho)
  have hD := hl.setD
  have hE := hl.setE
  generalize hpc : l.pc = p at h
  rw [hpc] at hlp hc hD hE
  cases h <;> try cases hlp
  case setStore k v d ho' =>
    cases ho.symm.trans ho'
    obtain ⟨t0, h0, h1, he⟩ := hE rfl
    refine ⟨Or.inl ⟨nofun, _, rfl, rfl⟩, fun h => absurd rfl h, fun _ => ⟨k, v, d, t0, rfl, h0, h1, he, fun hd => ?_, rfl⟩⟩
    have hld := (hD k v d ho).2 (Or.inr rfl) hd
    exact ⟨hld, fun dflt => by rw [he, hld]; simp [TTL.expiration, hd]⟩
  case cmpAbsent k op' hk ho' hget =>
    cases ho.symm.trans ho'
    exact ⟨Or.inl ⟨nofun, _, rfl, ((get_out hg ho (hc rfl) hk).1 (Sim.get_of_none hg hget)).symm⟩,
      fun _ => (get_abs _ (hc rfl)).symm, nofun⟩
  case cmpDead k op' i hk ho' hget he =>
    cases ho.symm.trans ho'
    exact ⟨Or.inl ⟨nofun, _, rfl, ((get_out hg ho (hc rfl) hk).1 ((Sim.get_of_some hg hget).trans (if_pos he))).symm⟩,
      fun _ => (get_abs _ (hc rfl)).symm, nofun⟩
  case cmpHit k op' i hk ho' hget he hno =>
    cases ho.symm.trans ho'
    have hab := (Sim.get_of_some hg hget).trans (if_neg (he ▸ Bool.false_ne_true))
    exact ⟨Or.inl ⟨nofun, _, rfl, ((get_out hg ho (hc rfl) hk).2 i hab).symm⟩, fun _ => (get_abs _ (hc rfl)).symm, nofun⟩
  case cmpTTL k i ho' hget he hpos =>
    cases ho.symm.trans ho'
    have hab := (Sim.get_of_some hg hget).trans (if_neg (he ▸ Bool.false_ne_true))
    have hnow : g.abs.now = g.now := hg.now
    exact ⟨Or.inr ⟨k, i, rfl, rfl, hab, hpos, by simp [toSpec, TTL.step, hab, hpos, hnow], rfl, rfl⟩,
      fun _ => (get_abs _ rfl).symm, nofun⟩
  case rmw op' ho' =>
    cases ho.symm.trans ho'
    exact ⟨Or.inl ⟨nofun, _, rfl, step_out hg op⟩, fun _ => rfl, nofun⟩
  case gdAbsent k op' hk ho' hget | gdFound k op' _ hk ho' hget =>
    cases ho.symm.trans ho'
    exact ⟨Or.inl ⟨nofun, _, rfl, by rw [← hget, ← (gd_step ho (hc rfl) hk).2]; exact step_out hg op⟩, fun _ => rfl, nofun⟩
  case clClear =>
    cases op <;> cases hc rfl
    exact ⟨Or.inl ⟨nofun, _, rfl, rfl⟩, fun _ => rfl, nofun⟩
  case sdStore _ ho' | scStore _ ho' =>
    cases ho.symm.trans ho'
    exact ⟨Or.inl ⟨nofun, _, rfl, rfl⟩, fun _ => rfl, nofun⟩

theorem lp_assigns_result (t : Tid) (g : G K V) (l : L K V) (c : Choice K V) (g' : G K V) (l' : L K V) (op : COp K V)
    (hg : GI g) (hl : LI g.now l) (hlp : lpPc l.pc = true) (ho : l.op = some op)
    (hs : tstep t g l c = some (g', l')) (hne : l'.pc ≠ .getTTLClock) :
    ∃ res, l'.result = some res ∧ logical res = (TTL.step g.abs (toSpec op)).2.1 := by
  rcases (lp_result hg hl hlp ho hs).1 with h | ⟨_, _, _, _, _, _, _, h, _⟩
  · exact h.2
  · exact absurd h hne

/-- the pcs whose step writes a shared (or ghost shared) variable -/
def sharedPc : Pc → Bool
  | .setStore | .getCompute | .rmw | .gdCompute | .gdFire | .deCompute | .deFire | .clClear | .sdStore | .scStore => true
  | _ => false

theorem tstep_local {t : Tid} {g : G K V} {l : L K V} {c : Choice K V} {g' : G K V} {l' : L K V}
    (hp : sharedPc l.pc = false) (hs : tstep t g l c = some (g', l')) : g' = g := by
  have h := step_of_tstep hs
  generalize l.pc = p at h hp
  cases h <;> first | rfl | cases hp

/-- a miss of the lock-free `Load` is a miss of the abstract map at that instant -/
theorem get_miss {t : Tid} {g : G K V} {l : L K V} {c : Choice K V} {g' : G K V} {l' : L K V}
    (hg : GI g) (hpc : l.pc = .getLoad) (hs : tstep t g l c = some (g', l')) (hret : l'.pc = .ret) :
    ∃ k op, opKey l = some k ∧ l.op = some op ∧ g.abs.live.get k = none ∧ l'.result = some (missResult op) := by
  have h := step_of_tstep hs
  rw [hpc] at h
  cases h
  case loadMiss k op hk ho hget => exact ⟨k, op, hk, ho, Sim.get_of_none hg hget, rfl⟩
  case loadHit => cases hret

/-- **Hindsight**: when a `Get`-family call passes the clock check with the loaded item `i`, `i` was the abstract binding
of the key at the instant of the call's `Load` (`l.absAtLoad = some i`, recorded at clock `l.nowAtLoad ≤ g.now`, an instant
inside the call). -/
theorem get_hindsight {t : Tid} {g : G K V} {l : L K V} {c : Choice K V} {g' : G K V} {l' : L K V}
    (hl : LI g.now l) (hpc : l.pc = .getChkClock) (hs : tstep t g l c = some (g', l')) :
    g' = g ∧ ∃ i op, l.loaded = some i ∧ l.op = some op ∧ l.nowAtLoad ≤ g.now ∧
      ((TTL.expired i.e g.now = false ∧ l.absAtLoad = some i ∧
          (((¬ ∃ k, op = .getWithTTL k ∧ 0 < i.e) ∧ l'.pc = .ret ∧ l'.result = some (hitResult op i g.now)) ∨
           (∃ k, op = .getWithTTL k ∧ 0 < i.e ∧ l'.pc = .getTTLClock ∧ l'.loaded = some i))) ∨
       (TTL.expired i.e g.now = true ∧ l'.pc = .getCompute)) := by
  obtain ⟨i, hi, hn, ha⟩ := hl.hind hpc
  -- unexpired now, so unexpired at the earlier `Load`: the binding recorded then was `i`
  have hab : TTL.expired i.e g.now = false → l.absAtLoad = some i := fun he => by
    cases h : TTL.expired i.e l.nowAtLoad
    · rw [ha, h]; rfl
    · rw [expired_mono _ _ _ hn h] at he; cases he
  have h := step_of_tstep hs
  rw [hpc] at h
  cases h
  case chkHit i' op hi' ho he hno =>
    cases hi.symm.trans hi'
    exact ⟨rfl, i, op, hi, ho, hn, Or.inl ⟨he, hab he, Or.inl ⟨hno, rfl, rfl⟩⟩⟩
  case chkTTL i' k hi' ho he hpos =>
    cases hi.symm.trans hi'
    exact ⟨rfl, i, _, hi, ho, hn, Or.inl ⟨he, hab he, Or.inr ⟨k, rfl, hpos, rfl, rfl⟩⟩⟩
  case chkDead i' op hi' ho he =>
    cases hi.symm.trans hi'
    exact ⟨rfl, i, op, hi, ho, hn, Or.inr ⟨he, rfl⟩⟩

/-- **The expiry-driven deletes never remove a live entry**: `DeleteExpired`'s conditional delete, decided with the pass's
clock `passNow ≤ now`, and `get`'s double-checked delete -/
theorem never_removes_live {t : Tid} {g : G K V} {l : L K V} {c : Choice K V} {g' : G K V} {l' : L K V}
    (hl : LI g.now l) (hpc : l.pc = .deCompute ∨ l.pc = .getCompute) (hs : tstep t g l c = some (g', l')) :
    ∀ k' i, g.items.get k' = some i → TTL.expired i.e g.now = false → g'.items.get k' = some i := by
  intro k' i hgi hlive
  have hp : dePass l.pc = true → l.passNow ≤ g.now := hl.pass
  -- a binding expired at an instant not after the clock is not `i`; erasing it leaves `k'` alone
  have erase : ∀ {k j pn}, g.items.get k = some j → pn ≤ g.now → TTL.expired j.e pn = true →
      (g.items.erase k).get k' = some i := fun {k j pn} hget hpn he => by
    rw [AMap.get_erase_ne _ _ _ (fun e => ?_), hgi]
    subst e
    cases hget.symm.trans hgi
    rw [expired_mono _ _ _ hpn he] at hlive; cases hlive
  have h := step_of_tstep hs
  rcases hpc with hpc | hpc <;> rw [hpc] at h hp <;> cases h
  case cmpAbsent | sweepAbsent => exact hgi
  case cmpDead k _ j _ _ hget he => exact erase hget (Int.le_refl _) he
  case sweepDead k _ j _ hget he => exact erase hget (hp rfl) he
  case cmpHit k _ j _ _ hget _ _ | cmpTTL k j _ hget _ _ | sweepLive k _ j _ hget _ =>
    exact (AMap.get_set_of_get hget k').trans hgi

/-! ## `GetWithTTL`, end to end -/

/-- **`GetWithTTL`'s second clock read**: the item held is the `i` of `get_hindsight` resp. of the `GetWithTTL` clause of
`lp_result` (locals are private and the thread has not moved since).  The lifetime is taken against the clock *of this
step*, which may have advanced since the call found `i` unexpired at `t0`: it is at most `i.e - t0`, and can be negative. -/
theorem get_ttl_clock (t : Tid) (g : G K V) (l : L K V) (c : Choice K V) (g' : G K V) (l' : L K V)
    (hl : LI g.now l) (hpc : l.pc = .getTTLClock) (hs : tstep t g l c = some (g', l')) :
    g' = g ∧ ∃ i k t0, l.loaded = some i ∧ l.op = some (.getWithTTL k) ∧ 0 < i.e ∧
      l.nowAtLoad ≤ t0 ∧ t0 ≤ g.now ∧ TTL.expired i.e t0 = false ∧
      l'.pc = .ret ∧ l'.result = some (.valTTL i.v (i.e - g.now) true) ∧ i.e - g.now ≤ i.e - t0 := by
  obtain ⟨i, k, t0, hi, ho, hpos, h1, h2, h3⟩ := hl.ttl hpc
  have h := step_of_tstep hs
  rw [hpc] at h
  cases h
  case ttlClock i' hi' =>
    cases hi.symm.trans hi'
    exact ⟨rfl, i, k, t0, hi, ho, hpos, h1, h2, h3, rfl, rfl, by omega⟩

theorem into_getTTLClock {t : Tid} {g : G K V} {l : L K V} {c : Choice K V} {g' : G K V} {l' : L K V}
    (hs : tstep t g l c = some (g', l')) (h : l'.pc = .getTTLClock) : l.pc = .getChkClock ∨ l.pc = .getCompute := by
  have hst := step_of_tstep hs
  generalize hpc : l.pc = p at hst
  cases hst
  case start op _ => cases op <;> simp only [startOp] at h <;> (try split at h) <;> cases h
  case chkTTL => exact Or.inl rfl
  case cmpTTL => exact Or.inr rfl
  case visitSkip => cases hpc.symm.trans h
  all_goals cases h

/-- **`GetWithTTL` end to end.**  A step of thread `t` from a reachable state `s` brings it to `getTTLClock` (`s1`); then
anything happens except steps of `t` (`sched`, reaching `s2`); then `t` steps (to `s3`).  Value and flag returned are the
spec's at the hindsight point (the call's `Load`, when the first step was the clock check of the hit path) resp. at the
linearization point (when it was the double-checked `Compute`); the lifetime is that of the same binding measured against
a later clock reading of the same call. -/
theorem getWithTTL_second_clock (dflt : Int) (cb : Option Nat) (now : Int) (h0 : 0 ≤ now) (s s1 s2 s3 : St K V)
    (t : Tid) (c c' : Choice K V) (δ δ' : Nat) (sched : List (Option Tid × Choice K V × Nat))
    (hr : Reach dflt cb now s) (h1 : step s (some t) c δ = some s1) (hpc : (s1.l t).pc = .getTTLClock)
    (hq : ∀ x ∈ sched, x.1 ≠ some t) (h2 : run s1 sched = some s2) (h3 : step s2 (some t) c' δ' = some s3) :
    ∃ k i, (s.l t).op = some (.getWithTTL k) ∧ 0 < i.e ∧ TTL.expired i.e s.g.now = false ∧
      (((s.l t).pc = .getChkClock ∧ (s.l t).loaded = some i ∧ (s.l t).absAtLoad = some i ∧
          (s.l t).nowAtLoad ≤ s.g.now ∧ s1.g = s.g) ∨
       ((s.l t).pc = .getCompute ∧ s.g.abs.live.get k = some i ∧ s1.g.abs = s.g.abs ∧
          (TTL.step s.g.abs (.getWithTTL k)).2.1 = .valTTL i.v (i.e - s.g.now) true)) ∧
      s.g.now ≤ s2.g.now ∧ s3.g = s2.g ∧ (s3.l t).pc = .ret ∧
      (s3.l t).result = some (.valTTL i.v (i.e - s2.g.now) true) := by
  obtain ⟨hg, hl, hst, _, hr1⟩ := reach_tstep h0 hr h1
  obtain ⟨_, hl2, hst2, _, _⟩ := reach_tstep h0 (reach_run hr1 h2) h3
  have hloc := run_quiet hq h2
  have hmono : s.g.now ≤ s2.g.now := (step_of_tstep hst).now ▸ run_now_mono h2
  obtain ⟨hg3, i', k', t0, hi', ho', _, _, _, _, hret, hres, _⟩ :=
    get_ttl_clock t s2.g (s2.l t) c' s3.g (s3.l t) hl2 (hloc ▸ hpc) hst2
  rw [hloc] at hi'
  rcases into_getTTLClock hst hpc with hp | hp
  · obtain ⟨hgeq, i, op, hi, ho, hn, hh⟩ := get_hindsight hl hp hst
    rcases hh with ⟨he, hab, ⟨_, hret', _⟩ | ⟨k, rfl, hpos, _, hld⟩⟩ | ⟨_, hcmp⟩
    · rw [hpc] at hret'; cases hret'
    · cases hld.symm.trans hi'
      exact ⟨k, i', ho, hpos, he, Or.inl ⟨hp, hi, hab, hn, hgeq⟩, hmono, hg3, hret, hres⟩
    · rw [hpc] at hcmp; cases hcmp
  · obtain ⟨op, ho, _⟩ := hl.cls .get (by rw [hp]; rfl)
    obtain ⟨hres1, habs, _⟩ := lp_result hg hl (by rw [hp]; rfl) ho hst
    rcases hres1 with ⟨hne, _⟩ | ⟨k, i, _, rfl, hab, hpos, hsp, _, hld⟩
    · exact absurd hpc hne
    · cases hld.symm.trans hi'
      exact ⟨k, i', ho, hpos, (hg.live_some hab).2,
        Or.inr ⟨hp, hab, (habs (by rw [hp]; nofun)).trans (get_abs _ rfl), hsp⟩, hmono, hg3, hret, hres⟩

/-! ## Progress (C13 at cache level): no step of a call in flight is ever disabled -/

theorem cls_key {l : L K V} {op : COp K V} (ho : l.op = some op) (h : opCls op = .get ∨ opCls op = .gd) :
    ∃ k, opKey l = some k := by
  cases op <;> simp only [opCls, reduceCtorEq, or_self] at h <;> exact ⟨_, by unfold opKey; rw [ho]⟩

theorem no_step_blocks {t : Tid} {g : G K V} {l : L K V} {c : Choice K V} (hl : LI g.now l)
    (h : l.pc ≠ .idle ∨ c.op.isSome = true) : (tstep t g l c).isSome = true := by
  have hc : ∀ {c}, pcCls l.pc = some c → InCls l c := hl.cls _
  cases hpc : l.pc <;> rw [hpc] at hc <;> simp only [tstep, hpc]
  case idle =>
    rcases h with h | h
    · exact absurd hpc h
    · cases hc : c.op with
      | none => rw [hc] at h; cases h
      | some op => rfl
  case setStore | sdStore | scStore =>
    obtain ⟨op, ho, hcls⟩ := hc rfl
    cases op <;> simp only [opCls, reduceCtorEq] at hcls
    simp [ho]
  case getLoad =>
    obtain ⟨op, ho, hcls⟩ := hc rfl
    obtain ⟨k, hk⟩ := cls_key ho (.inl hcls)
    simp only [hk, ho]
    split <;> rfl
  case getChkClock =>
    obtain ⟨op, ho, _⟩ := hc rfl
    obtain ⟨i, hi, _⟩ := hl.hind hpc
    simp only [hi, ho]
    split <;> rfl
  case getCompute =>
    obtain ⟨op, ho, hcls⟩ := hc rfl
    obtain ⟨k, hk⟩ := cls_key ho (.inl hcls)
    simp only [hk, ho]; rfl
  case getTTLClock =>
    obtain ⟨i, _, _, hi, _⟩ := hl.ttl hpc
    simp only [hi]; rfl
  case rmw =>
    obtain ⟨op, ho, _⟩ := hc rfl
    simp only [ho]; rfl
  case gdCompute =>
    obtain ⟨op, ho, hcls⟩ := hc rfl
    obtain ⟨k, hk⟩ := cls_key ho (.inr hcls)
    simp only [hk, ho]; rfl
  case deCompute =>
    have := hl.cur hpc
    cases hcur : l.cur with
    | none => rw [hcur] at this; cases this
    | some p => rfl
  -- the steps that remain have a branch for every value of what they test
  all_goals (repeat' split) <;> rfl

/-! ## Callbacks (C06) -/

/-- the ghost list `erased` is sound: an entry is appended only by a `Compute` of this thread that removes that entry from
the map in that very step (`startOp` resets the list) -/
theorem erased_step {t : Tid} {g : G K V} {l : L K V} {c : Choice K V} {g' : G K V} {l' : L K V}
    (hs : tstep t g l c = some (g', l')) :
    l'.erased = l.erased ∨ (l.pc = .idle ∧ l'.erased = []) ∨
    ∃ k i, (l.pc = .gdCompute ∨ l.pc = .deCompute) ∧ l'.erased = l.erased ++ [(k, i.v)] ∧
      g.items.get k = some i ∧ g'.items.get k = none := by
  have h := step_of_tstep hs
  generalize l.pc = p at h
  cases h
  case start op _ => exact Or.inr (Or.inl ⟨rfl, by cases op <;> rfl⟩)
  case gdFound k op i _ _ hget => exact Or.inr (Or.inr ⟨k, i, Or.inl rfl, rfl, hget, AMap.get_erase_self _ _⟩)
  case sweepDead k _ i _ hget _ => exact Or.inr (Or.inr ⟨k, i, Or.inr rfl, rfl, hget, AMap.get_erase_self _ _⟩)
  all_goals exact Or.inl rfl

theorem ledger_fired_step {t : Tid} {g : G K V} {l : L K V} {c : Choice K V} {g' : G K V} {l' : L K V}
    (hs : tstep t g l c = some (g', l')) :
    (g'.ledger = g.ledger ∧ (l'.fired = l.fired ∨ l'.fired = [])) ∨
    ∃ cb k v, l.ec = some cb ∧ g'.ledger = g.ledger ++ [(cb, k, v)] ∧ l'.fired = l.fired ++ [(k, v)] ∧
      g'.items = g.items ∧
      ((l.pc = .gdFire ∧ opKey l = some k ∧ ∃ i, l.removed = some i ∧ i.v = v) ∨
       (l.pc = .deFire ∧ ∃ rest, l.queue = (k, v) :: rest ∧ l'.queue = rest)) := by
  have h := step_of_tstep hs
  generalize l.pc = p at h
  cases h
  case start op _ => exact Or.inl ⟨rfl, Or.inr (by cases op <;> rfl)⟩
  case gdFire k i cb hk hr hec => exact Or.inr ⟨cb, k, i.v, hec, rfl, rfl, rfl, Or.inl ⟨rfl, hk, i, hr, rfl⟩⟩
  case deFire k v rest cb hq hec => exact Or.inr ⟨cb, k, v, hec, rfl, rfl, rfl, Or.inr ⟨rfl, rest, hq, rfl⟩⟩
  all_goals exact Or.inl ⟨rfl, Or.inl rfl⟩

/-- **Every callback invocation reports an entry this thread removed earlier in the same call**: `(k, v)` is in the ghost
list of entries the call's own `Compute`s removed (`erased_step`) -/
theorem ledger_only_removed {t : Tid} {g : G K V} {l : L K V} {c : Choice K V} {g' : G K V} {l' : L K V}
    (hl : LI g.now l) (hs : tstep t g l c = some (g', l')) :
    g'.ledger = g.ledger ∨
    ∃ cb k v, g'.ledger = g.ledger ++ [(cb, k, v)] ∧ l.ec = some cb ∧ (k, v) ∈ l.erased ∧ g'.items = g.items ∧
      ((l.pc = .gdFire ∧ opKey l = some k ∧ ∃ i, l.removed = some i ∧ i.v = v) ∨
       (l.pc = .deFire ∧ ∃ rest, l.queue = (k, v) :: rest ∧ l'.queue = rest)) := by
  rcases ledger_fired_step hs with ⟨h, _⟩ | ⟨cb, k, v, hec, hled, _, hit, hw⟩
  · exact Or.inl h
  · refine Or.inr ⟨cb, k, v, hled, hec, ?_, hit, hw⟩
    rcases hw with ⟨hpc, hk, i, hr, rfl⟩ | ⟨hpc, rest, hq, _⟩
    · obtain ⟨i', hi', hmem⟩ := hl.rem (Or.inr hpc) k hk
      cases hr.symm.trans hi'
      exact hmem
    · exact hl.que _ (hq ▸ List.mem_cons_self)

/-! ## Exactly once (C06): per call, what fired is exactly what was removed, once each, in order

A second per-thread invariant `FI`, purely local (it mentions no global): the thread's own steps preserve it given `LI`
(`fi_self`), nobody else's touch it. -/

def isRemoval : COp K V → Bool
  | .getAndDelete _ | .delete _ | .deleteExpired => true
  | _ => false

theorem isRemoval_eq (op : COp K V) : isRemoval op = (decide (opCls op = .gd) || decide (opCls op = .de)) := by
  cases op <;> rfl

/-- `opKey` depends on the call only -/
def opKeyOf : Option (COp K V) → Option K
  | some (.set k _ _) | some (.get k) | some (.getWithExpiration k) | some (.getWithTTL k)
  | some (.getOrSet k _ _) | some (.getAndSet k _ _) | some (.getAndRefresh k _) | some (.getOrCompute k _ _)
  | some (.compute k _ _) | some (.getAndDelete k) | some (.delete k) => some k
  | _ => none

theorem opKey_eq_of (l : L K V) : opKey l = opKeyOf l.op := rfl

structure FI (l : L K V) : Prop where
  hasOp : l.pc ≠ .idle → ∃ op, l.op = some op
  other : l.pc ≠ .idle → ∀ op, l.op = some op → isRemoval op = false → l.fired = [] ∧ l.erased = []
  pre : (l.pc = .gdCompute ∨ l.pc = .deReadCb ∨ l.pc = .deReadClock) → l.fired = [] ∧ l.erased = []
  gdMid : (l.pc = .gdReadCb ∨ l.pc = .gdFire) →
      l.fired = [] ∧ ∃ k i, opKey l = some k ∧ l.removed = some i ∧ l.erased = [(k, i.v)]
  pass : dePass l.pc = true →
      (∀ cb, l.ec = some cb → l.fired ++ l.queue = l.erased) ∧ (l.ec = none → l.fired = [] ∧ l.queue = [])
  ret : l.pc = .ret → ∀ op, l.op = some op → isRemoval op = true →
      (∀ cb, l.ec = some cb → l.fired = l.erased) ∧ (l.ec = none → l.fired = [])
  retGd : l.pc = .ret → ∀ op, l.op = some op → opCls op = .gd →
      (l.removed = none → l.fired = [] ∧ l.erased = []) ∧
      (∀ i, l.removed = some i → ∃ k, opKey l = some k ∧ l.erased = [(k, i.v)])

theorem fi_idle {l : L K V} (h : l.pc = .idle) : FI l := by
  refine ⟨?_, ?_, ?_, ?_, ?_, ?_, ?_⟩ <;>
    simp only [h, dePass, ne_eq, not_true_eq_false, reduceCtorEq, or_self, Bool.false_eq_true, false_implies]

/-- `FI` per control point, for a removal call of class `c` in flight -/
def FIat (l : L K V) (c : Cls) : Pc → Prop
  | .gdCompute | .deReadCb | .deReadClock => l.fired = [] ∧ l.erased = []
  | .gdReadCb | .gdFire => l.fired = [] ∧ ∃ k i, opKey l = some k ∧ l.removed = some i ∧ l.erased = [(k, i.v)]
  | .deVisit | .deCompute | .deFire =>
      (∀ cb, l.ec = some cb → l.fired ++ l.queue = l.erased) ∧ (l.ec = none → l.fired = [] ∧ l.queue = [])
  | .ret => ((∀ cb, l.ec = some cb → l.fired = l.erased) ∧ (l.ec = none → l.fired = [])) ∧
      (c = .gd → (l.removed = none → l.fired = [] ∧ l.erased = []) ∧
        ∀ i, l.removed = some i → ∃ k, opKey l = some k ∧ l.erased = [(k, i.v)])
  | _ => True

theorem fi_at {l : L K V} {c : Cls} (hin : InCls l c) (hc : c = .gd ∨ c = .de) (h : FIat l c l.pc) : FI l := by
  obtain ⟨op, ho, rfl⟩ := hin
  have hr : isRemoval op = true := by rw [isRemoval_eq]; rcases hc with hc | hc <;> rw [hc] <;> rfl
  have hop : ∀ {op'}, l.op = some op' → op' = op := fun h => Option.some.inj (h.symm.trans ho)
  exact {
    hasOp := fun _ => ⟨op, ho⟩
    other := fun _ op' ho' hr' => by rw [hop ho', hr] at hr'; cases hr'
    pre := fun hp => by rcases hp with hp | hp | hp <;> rw [hp] at h <;> exact h
    gdMid := fun hp => by rcases hp with hp | hp <;> rw [hp] at h <;> exact h
    pass := fun hp => by cases hpc : l.pc <;> rw [hpc] at h hp <;> cases hp <;> exact h
    ret := fun hp _ _ _ => by rw [hp] at h; exact h.1
    retGd := fun hp op' ho' hc' => by rw [hp] at h; cases hop ho'; exact h.2 hc' }

theorem fi_plain {l : L K V} {op : COp K V} (ho : l.op = some op) (hr : isRemoval op = false) (hf : l.fired = [])
    (he : l.erased = []) (hgd : l.pc ≠ .gdReadCb ∧ l.pc ≠ .gdFire) (hde : dePass l.pc = false) : FI l where
  hasOp _ := ⟨op, ho⟩
  other _ _ _ _ := ⟨hf, he⟩
  pre _ := ⟨hf, he⟩
  gdMid h := absurd h (not_or.2 hgd)
  pass h := by rw [hde] at h; cases h
  ret _ _ _ _ := ⟨fun _ _ => hf.trans he.symm, fun _ => hf⟩
  retGd _ op' ho' hc' := by
    cases ho.symm.trans ho'
    rw [isRemoval_eq, hc'] at hr; cases hr

theorem fi_startOp {l : L K V} {op : COp K V} : FI (startOp l op) := by
  cases op
  case set k v d =>
    by_cases hd : d = Gen.DefaultExpiration <;> simp only [startOp, hd, if_true, if_false] <;>
      exact fi_plain rfl rfl rfl rfl ⟨nofun, nofun⟩ rfl
  case getAndDelete | delete => exact fi_at ⟨_, rfl, rfl⟩ (.inl rfl) ⟨rfl, rfl⟩
  case deleteExpired => exact fi_at ⟨_, rfl, rfl⟩ (.inr rfl) ⟨rfl, rfl⟩
  all_goals exact fi_plain rfl rfl rfl rfl ⟨nofun, nofun⟩ rfl

-- no proof uses this either (`fi_self` goes by the rules of `Step`): `li_auto` for the fields of `FI`
macro "fi_auto " hs:ident : tactic =>
  `(tactic| ((repeat' split at $hs:ident) <;>
    simp only [Option.some.injEq, reduceCtorEq, Prod.mk.injEq] at $hs:ident <;>
    rcases $hs:ident with ⟨hg', hl'⟩ <;> subst hg' <;> subst hl' <;>
    (refine ⟨?_, ?_, ?_, ?_, ?_, ?_, ?_⟩ <;> simp_all [dePass, isRemoval_eq, opKey_eq_of])))

theorem fi_self {t : Tid} {g : G K V} {l : L K V} {c : Choice K V} {g' : G K V} {l' : L K V}
    (hl : LI g.now l) (hf : FI l) (hs : tstep t g l c = some (g', l')) : FI l' := by
  have h := step_of_tstep hs
  have hc : ∀ {c}, pcCls l.pc = some c → InCls l c := hl.cls _
  have hpre := hf.pre
  have hmid := hf.gdMid
  have hpass := hf.pass
  have hoth := hf.other
  generalize l.pc = p at h hc hpre hmid hpass hoth
  cases h
  case start => exact fi_startOp
  case ret => exact fi_idle rfl
  case visitSkip => exact hf
  case gdAbsent k op hk ho hget =>
    obtain ⟨hf0, he0⟩ := hpre (.inl rfl)
    exact fi_at (hc rfl) (.inl rfl) ⟨⟨fun _ _ => hf0.trans he0.symm, fun _ => hf0⟩, fun _ => ⟨fun _ => ⟨hf0, he0⟩, nofun⟩⟩
  case gdFound k op i hk ho hget =>
    obtain ⟨hf0, he0⟩ := hpre (.inl rfl)
    exact fi_at (hc rfl) (.inl rfl) ⟨hf0, k, i, hk, rfl, by rw [he0]; rfl⟩
  case gdReadCb => exact fi_at (hc rfl) (.inl rfl) (hmid (.inl rfl))
  case gdFire k i cb hk hrem hec =>
    obtain ⟨hf0, k', i', hk', hi', he'⟩ := hmid (.inr rfl)
    cases hk.symm.trans hk'
    cases hrem.symm.trans hi'
    exact fi_at (hc rfl) (.inl rfl)
      ⟨⟨fun _ _ => by rw [hf0, he']; rfl, fun hn => (nomatch hec.symm.trans hn)⟩,
       fun _ => ⟨fun hn => (nomatch hrem.symm.trans hn), fun j hj => ⟨k, hk, by cases hrem.symm.trans hj; exact he'⟩⟩⟩
  case gdSilent hno =>
    obtain ⟨hf0, k, i, hk, hi, he⟩ := hmid (.inr rfl)
    exact fi_at (hc rfl) (.inl rfl)
      ⟨⟨fun cb hcb => (hno k i cb hk hi hcb).elim, fun _ => hf0⟩,
       fun _ => ⟨fun hn => (nomatch hi.symm.trans hn), fun j hj => ⟨k, hk, by cases hi.symm.trans hj; exact he⟩⟩⟩
  case deReadCb => exact fi_at (hc rfl) (.inr rfl) (hpre (.inr (.inl rfl)))
  case deReadClock =>
    obtain ⟨hf0, he0⟩ := hpre (.inr (.inr rfl))
    exact fi_at (hc rfl) (.inr rfl) ⟨fun _ _ => by rw [hf0, he0]; rfl, fun _ => ⟨hf0, rfl⟩⟩
  case visitEnd | visitDead | sweepAbsent | sweepLive => exact fi_at (hc rfl) (.inr rfl) (hpass rfl)
  case sweepDead k i0 i hcur hget he =>
    obtain ⟨h1, h2⟩ := hpass rfl
    refine fi_at (hc rfl) (.inr rfl) ⟨fun cb (hcb : l.ec = some cb) => ?_, fun (hn : l.ec = none) => ?_⟩
    · simp only [hcb, Option.isSome_some, if_true, ← List.append_assoc, h1 cb hcb]
    · simp only [hn, Option.isSome_none, Bool.false_eq_true, if_false, List.append_nil]; exact h2 hn
  case deFire k v rest cb hq hec =>
    obtain ⟨h1, _⟩ := hpass rfl
    exact fi_at (hc rfl) (.inr rfl)
      ⟨fun _ _ => by rw [← h1 cb hec, hq]; exact List.append_assoc .., fun hn => (nomatch hec.symm.trans hn)⟩
  case deDone hno =>
    obtain ⟨h1, h2⟩ := hpass rfl
    refine fi_at (hc rfl) (.inr rfl) ⟨⟨fun cb hcb => ?_, fun hn => (h2 hn).1⟩, nofun⟩
    cases hq : l.queue with
    | nil => have := h1 cb hcb; rwa [hq, List.append_nil] at this
    | cons p rest => exact (hno p.1 p.2 rest cb hq hcb).elim
  -- the calls that are not removals: nothing fired, nothing removed, and no rule of theirs changes that
  all_goals
    obtain ⟨op, ho, hcls⟩ := hc rfl
    have hr : isRemoval op = false := by rw [isRemoval_eq, hcls]; rfl
    obtain ⟨hf0, he0⟩ := hoth nofun op ho hr
    exact fi_plain ho hr hf0 he0 ⟨nofun, nofun⟩ rfl

theorem fi_step {s s' : St K V} {w : Option Tid} {c : Choice K V} {δ : Nat} (h : Inv s) (hf : ∀ u, FI (s.l u))
    (hs : step s w c δ = some s') : ∀ u, FI (s'.l u) := by
  intro u
  by_cases hw : w = some u
  · subst hw
    exact fi_self (h.2 u) (hf u) (step_some hs).1
  · rw [step_other hs hw]; exact hf u

theorem fi_reach {dflt : Int} {cb : Option Nat} {now : Int} {s : St K V} (h0 : 0 ≤ now)
    (hr : Reach dflt cb now s) (t : Tid) : FI (s.l t) :=
  (reach_induction (P := fun s => Inv s ∧ ∀ u, FI (s.l u)) ⟨inv_init dflt cb now h0, fun _ => fi_idle rfl⟩
    (fun s s' w c δ h hs => ⟨inv_step s s' w c δ h.1 hs, fi_step h.1 h.2 hs⟩) hr).2 t

/-- **During a call, what has fired so far is a prefix of what was removed.**  For `DeleteExpired`, `fired ++ queue =
erased`: fired, then still to fire, is what was removed, in removal order; when the pass read no callback nothing is
queued (the model queues removed entries only when a callback was read). -/
theorem fired_prefix {l : L K V} (hf : FI l) :
    (l.pc = .gdCompute → l.fired = [] ∧ l.erased = []) ∧
    ((l.pc = .gdReadCb ∨ l.pc = .gdFire) → l.fired = [] ∧
        ∃ k i, opKey l = some k ∧ l.removed = some i ∧ l.erased = [(k, i.v)]) ∧
    ((l.pc = .deReadCb ∨ l.pc = .deReadClock) → l.fired = [] ∧ l.erased = []) ∧
    ((l.pc = .deVisit ∨ l.pc = .deCompute ∨ l.pc = .deFire) →
        match l.ec with
        | some _ => l.fired ++ l.queue = l.erased
        | none => l.fired = [] ∧ l.queue = []) := by
  refine ⟨fun h => hf.pre (Or.inl h), hf.gdMid, fun h => hf.pre (Or.inr h), fun h => ?_⟩
  have := hf.pass (by rcases h with h | h | h <;> rw [h] <;> rfl)
  cases hec : l.ec with
  | none => exact this.2 hec
  | some cb => exact this.1 cb hec

theorem gd_fire (t : Tid) (g : G K V) (l : L K V) (c : Choice K V) (g' : G K V) (l' : L K V)
    (hf : FI l) (hpc : l.pc = .gdFire) (hs : tstep t g l c = some (g', l')) :
    l'.pc = .ret ∧ l'.erased = l.erased ∧ l'.ec = l.ec ∧
    match l.ec with
    | some cb => ∃ k v, l.erased = [(k, v)] ∧ g'.ledger = g.ledger ++ [(cb, k, v)] ∧ l'.fired = [(k, v)]
    | none => g'.ledger = g.ledger ∧ l'.fired = [] := by
  obtain ⟨hfi, k, i, hk, hi, he⟩ := hf.gdMid (Or.inr hpc)
  have h := step_of_tstep hs
  rw [hpc] at h
  cases h
  case gdFire k' i' cb hk' hi' hec =>
    cases hk.symm.trans hk'
    cases hi.symm.trans hi'
    rw [hec]
    exact ⟨rfl, rfl, rfl, k, i.v, he, rfl, by rw [hfi]; rfl⟩
  case gdSilent hno =>
    cases hec : l.ec with
    | none => exact ⟨rfl, rfl, rfl, rfl, hfi⟩
    | some cb => exact (hno k i cb hk hi hec).elim

theorem ledger_fired_coupled {t : Tid} {g : G K V} {l : L K V} {c : Choice K V} {g' : G K V} {l' : L K V}
    (hs : tstep t g l c = some (g', l')) (k : K) (v : V) :
    ((∃ cb, g'.ledger = g.ledger ++ [(cb, k, v)]) ↔ l'.fired = l.fired ++ [(k, v)]) ∧
    (∀ cb, g'.ledger = g.ledger ++ [(cb, k, v)] → l.ec = some cb) := by
  rcases ledger_fired_step hs with ⟨hl, hf⟩ | ⟨cb, k', v', hec, hl, hf, _⟩
  · rcases hf with hf | hf <;> simp [hl, hf]
  · rw [hl, hf]
    simp only [List.append_cancel_left_eq, List.cons.injEq, Prod.mk.injEq, and_true]
    exact ⟨⟨fun ⟨_, _, h⟩ => h, fun h => ⟨cb, rfl, h⟩⟩, fun _ h => h.1 ▸ hec⟩

end Proofs.ConcCacheLin
