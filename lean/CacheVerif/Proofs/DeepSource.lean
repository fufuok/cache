import CacheVerif.Proofs.DeepCache
import CacheVerif.Proofs.DeepCacheOf
import CacheVerif.Proofs.Twin
/-!
Both files at once: for either twin, the interpreter run on the generated method bodies computes the step of the
(one) hand-written model `Model.Cache` — `deep_step` for each file, and the twins' models are equal.
-/
namespace DeepSource
open Deep Model
variable {K V : Type} [DecidableEq K] [Inhabited V]

def IsTwin (T : Twin K V) : Prop := T = twinMap ∨ T = twinMapOf

theorem step (s : CSt K V) (op : Op K V) (T : Twin K V) (hT : IsTwin T) :
    deepStep T s op = some (Model.Cache.step s op) := by
  rcases hT with rfl | rfl
  · exact DeepCache.deep_step s op
  · rw [DeepCacheOf.deep_step, Proofs.Twin.step_eq]

theorem run (s : CSt K V) (ops : List (Op K V)) (T : Twin K V) (hT : IsTwin T) :
    deepRun T s ops = some (Model.Cache.run s ops) := by
  rcases hT with rfl | rfl
  · exact DeepCache.deep_run s ops
  · rw [DeepCacheOf.deep_run, Proofs.Twin.run_eq]

end DeepSource
