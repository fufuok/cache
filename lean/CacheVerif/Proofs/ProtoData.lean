import CacheVerif.Proofs.ProtoLocks
/-!
# M4a invariants: table contents, counters, resize preserves the bindings

On top of the lock invariants (`ProtoLocks`): every table generation holds a duplicate-free association list; the striped
counter plus the deltas writers have not added yet equals the number of entries (per generation); while a grow/shrink copies
bucket by bucket the new table holds exactly the entries of the buckets copied so far and no writer can touch a copied bucket,
so publishing the new table does not change the abstract content `absGet` (= what `Load` sees in the current table).

The invariant `DInv` has a part about the tables (`GD`), a part per thread whose clauses are guarded by the pc (`LD`), a
part per resizer and writer (`Pair`) and the counter equation per generation (`CntT`).  A step is looked at from two
sides: what it does to the tables (`TEff`, `step_frame`: hypothesis-free) and what it does to the locals that `LD` reads
(`LD.writer`, `LD.jump`, `self_quiet`).  The theorems after `dinv_reach` state the clauses of `DInv` one by one for a reachable
state, every argument explicit, as the property files quote them.

The file ends with a part in namespace `Proofs.ProtoLin`, on which `ProtoLin` and `ProtoRange` both rest: `ProtoRange` imports
no more of `ProtoLin` than this.
-/
set_option linter.unusedSectionVars false
namespace Proofs.ProtoData
open Spec Model.Proto Proofs.ProtoLocks

variable {K V : Type} [DecidableEq K]
variable {p : Params K} {t u : Tid} {g g' : G K V} {l l' m : L K V} {c : Choice K V}

/-- the abstract content: what a lookup sees -/
def absGet (g : G K V) (k : K) : Option V := (g.tables g.cur).data.get k

/-- a writer whose size delta has not reached the counter yet -/
def pendingOn (l : L K V) (T : Nat) : Bool := (l.pc = .dcUnlock || l.pc = .dcAddSize) && l.tbl = T

def pendSum (s : St K V) (T : Nat) : Nat → Int
  | 0 => 0
  | n + 1 => pendSum s T n + (if pendingOn (s.l n) T then (s.l n).delta else 0)

/-- what `rzCopyDo` does to the data of the new table -/
def copyInto (d : AMap K V) (es : List (K × V)) : AMap K V := es.foldl (fun d e => d.set e.1 e.2) d

theorem copyInto_nil (d : AMap K V) : copyInto d [] = d := rfl
theorem copyInto_cons (d : AMap K V) (e : K × V) (es : List (K × V)) :
    copyInto d (e :: es) = copyInto (d.set e.1 e.2) es := rfl

theorem WF_copyInto (d : AMap K V) (es : List (K × V)) (h : AMap.WF d) : AMap.WF (copyInto d es) := by
  induction es generalizing d with
  | nil => exact h
  | cons e es ih => exact ih _ (AMap.WF_set d e.1 e.2 h)

theorem get_copyInto (d : AMap K V) (es : List (K × V)) (hw : AMap.WF es) (k : K) :
    AMap.get (copyInto d es) k = (AMap.get es k).or (AMap.get d k) := by
  induction es generalizing d with
  | nil => rfl
  | cons e es ih =>
    obtain ⟨k', v⟩ := e
    obtain ⟨hn, hw'⟩ := (AMap.WF_cons k' v es).mp hw
    rw [copyInto_cons, ih _ hw', AMap.get_cons, AMap.get_set]
    by_cases hk : k' = k
    · subst hk; simp [hn]
    · simp [hk]

theorem length_copyInto (d : AMap K V) (es : List (K × V)) (hw : AMap.WF es)
    (hnew : ∀ k v, AMap.get es k = some v → AMap.get d k = none) :
    (copyInto d es).length = d.length + es.length := by
  induction es generalizing d with
  | nil => rfl
  | cons e es ih =>
    obtain ⟨k', v⟩ := e
    obtain ⟨hn, hw'⟩ := (AMap.WF_cons k' v es).mp hw
    rw [copyInto_cons, ih _ hw', AMap.length_set_of_get_none d k' v (hnew k' v (by simp))]
    · simp only [List.length_cons]; omega
    · intro k v' hk
      have hne : k' ≠ k := by intro e; subst e; rw [hn] at hk; cases hk
      rw [AMap.get_set, if_neg hne]
      exact hnew k v' (by rw [AMap.get_cons, if_neg hne]; exact hk)

theorem mem_copyInto_sub {d : AMap K V} {es : List (K × V)} {e : K × V} (h : e ∈ copyInto d es) : e ∈ d ∨ e ∈ es := by
  induction es generalizing d with
  | nil => exact Or.inl h
  | cons x xs ih =>
    rw [copyInto_cons] at h
    rcases ih h with h1 | h1
    · rcases (AMap.mem_set d x.1 x.2 e).mp h1 with h2 | h2
      · exact Or.inr (by rw [h2]; exact List.mem_cons_self)
      · exact Or.inl h2.1
    · exact Or.inr (List.mem_cons_of_mem _ h1)

/-- pcs at which `l.bi` is the bucket of the key in table `l.tbl` -/
def hasBi : Pc → Bool
  | .dcLock | .dcChkResizing | .dcChkTable | .dcScan | .dcSum | .dcFn | .dcCommit => true
  | _ => false

/-- a writer that has seen `resizing = false` under its bucket lock and has not committed yet (at `dcChkTable` the check of `cur`
is still to come; past it: `ProtoLin.past2`) -/
def pastChk : Pc → Bool
  | .dcChkTable | .dcScan | .dcSum | .dcFn | .dcCommit => true
  | _ => false

/-- pcs at which `l.old` is the binding the scan found -/
def oldPc : Pc → Bool
  | .dcSum | .dcFn | .dcCommit => true
  | _ => false

/-- pcs at which `l.rtbl` is the table being resized -/
def rcurPc : Pc → Bool
  | .rzDecide | .rzDecideSum | .rzCopyLock | .rzCopyDo | .rzCopyUnlock | .rzPublish => true
  | _ => false

/-- pcs of `resize` that only a grow / shrink visits -/
def copyPc : Pc → Bool
  | .rzDecideSum | .rzCopyLock | .rzCopyDo | .rzCopyUnlock => true
  | _ => false

/-- the pcs of a traversal that has loaded its table -/
def rgPc : Pc → Bool
  | .rgLock | .rgCopy | .rgUnlock | .rgVisit => true
  | _ => false

/-- copy progress of a resizer: the buckets `< c` of the old table have been copied -/
def copyC (l : L K V) : Option Nat :=
  match l.pc with
  | .rzCopyLock | .rzCopyDo => some l.ci
  | .rzCopyUnlock => some (l.ci + 1)
  | .rzPublish => if l.hint = .clear then none else some l.ci
  | _ => none

def Copied (p : Params K) (g : G K V) (o n c : Nat) : Prop :=
  ∀ k, (g.tables n).data.get k = if bucketOf p g o k < c then (g.tables o).data.get k else none

structure GD (g : G K V) : Prop where
  wf : ∀ T, AMap.WF (g.tables T).data
  /-- the one clause that needs `0 < p.minLen`, the hypothesis `hmin` of every theorem that goes through `DInv`: `bucketOf` is
  `% len`; `init` and `Clear` allocate `minLen` buckets, a grow doubles, a shrink halves only a table longer than `minLen` -/
  lenPos : ∀ T, 0 < (g.tables T).len

/-- Built by position (11 clauses) in `LD.writer`, `self_quiet`, `self_rzDecide`, `self_LD`; by field names elsewhere. -/
structure LD (p : Params K) (g : G K V) (l : L K V) : Prop where
  tblLe : l.tbl ≤ g.cur
  framesLe : ∀ f ∈ l.frames, f.tbl ≤ g.cur
  bkt : hasBi l.pc = true → ∀ k, opKey l = some k → l.bi = bucketOf p g l.tbl k
  old : oldPc l.pc = true → ∀ k, opKey l = some k → l.old = (g.tables l.tbl).data.get k
  rcur : rcurPc l.pc = true → l.rtbl = g.cur
  newGt : usesNewT l.pc = true → g.cur < l.newT
  noclr : copyPc l.pc = true → l.hint ≠ .clear
  copy : ∀ c, copyC l = some c → Copied p g l.rtbl l.newT c
  full : l.pc = .rzPublish → l.hint ≠ .clear → (g.tables l.rtbl).len ≤ l.ci
  clr : l.pc = .rzPublish → l.hint = .clear → (g.tables l.newT).data = []
  /-- the length check of a shrink (`rzDecide`) still holds while the counter is summed -/
  shr : l.pc = .rzDecideSum → p.minLen < (g.tables l.rtbl).len

/-- relation between a resizer `r` and a writer `u`: a writer that has seen `resizing = false` (`pastChk`) on the table being copied
holds a bucket that has not been copied yet -/
def Pair (r u : L K V) : Prop :=
  ∀ c, copyC r = some c → pastChk u.pc = true → u.tbl = r.rtbl → c ≤ u.bi

def SameT (g g' : G K V) : Prop :=
  g'.cur = g.cur ∧ g'.ntables = g.ntables ∧ ∀ T, (g'.tables T).len = (g.tables T).len ∧ (g'.tables T).data = (g.tables T).data

theorem bucketOf_congr {T : Nat} {k : K} (h : (g'.tables T).len = (g.tables T).len) :
    bucketOf p g' T k = bucketOf p g T k := by
  unfold bucketOf; rw [h]

theorem Copied_congr {o n c : Nat} (ho : (g'.tables o).len = (g.tables o).len)
    (hod : (g'.tables o).data = (g.tables o).data) (hn : (g'.tables n).data = (g.tables n).data)
    (h : Copied p g o n c) : Copied p g' o n c := by
  intro k; rw [hn, hod, bucketOf_congr ho]; exact h k

theorem GD_same (h : SameT g g') (hd : GD g) : GD g' :=
  ⟨fun T => by rw [(h.2.2 T).2]; exact hd.wf T, fun T => by rw [(h.2.2 T).1]; exact hd.lenPos T⟩

theorem LD_same (h : SameT g g') (hd : LD p g l) : LD p g' l := by
  obtain ⟨hc, -, ht⟩ := h
  exact {
    tblLe := by rw [hc]; exact hd.tblLe
    framesLe := fun f hf => by rw [hc]; exact hd.framesLe f hf
    bkt := fun h1 k hk => by rw [bucketOf_congr (ht _).1]; exact hd.bkt h1 k hk
    old := fun h1 k hk => by rw [(ht _).2]; exact hd.old h1 k hk
    rcur := fun h1 => by rw [hc]; exact hd.rcur h1
    newGt := fun h1 => by rw [hc]; exact hd.newGt h1
    noclr := hd.noclr
    copy := fun c h1 => Copied_congr (ht _).1 (ht _).2 (ht _).2 (hd.copy c h1)
    full := fun h1 h2 => by rw [(ht _).1]; exact hd.full h1 h2
    clr := fun h1 h2 => by rw [(ht _).2]; exact hd.clr h1 h2
    shr := fun h1 => by rw [(ht _).1]; exact hd.shr h1 }

/-- the projections of a conditional table, which is what `setTbl_tables` leaves -/
theorem ite_len_app (c : Prop) [Decidable c] (a b : PTbl K V) :
    (if c then a else b).len = if c then a.len else b.len := by split <;> rfl
theorem ite_data_app (c : Prop) [Decidable c] (a b : PTbl K V) :
    (if c then a else b).data = if c then a.data else b.data := by split <;> rfl

theorem sameT_setTbl {T : Nat} {tb : PTbl K V} (h1 : tb.len = (g.tables T).len) (h2 : tb.data = (g.tables T).data) :
    SameT g (setTbl g T tb) :=
  ⟨rfl, rfl, fun T' => ⟨setTbl_keeps (·.len) h1 T', setTbl_keeps (·.data) h2 T'⟩⟩

/-! ### the clauses of `LD` by role

`bkt` and `old` speak of a writer inside `doCompute`, the other guarded clauses of the resizer between its decision and the
publish (`rcurPc`): a thread outside `rcurPc` satisfies the latter vacuously. -/

theorem rcurPc_false {pc : Pc} (h : rcurPc pc = false) :
    ¬ usesNewT pc = true ∧ ¬ copyPc pc = true ∧ pc ≠ .rzPublish ∧ pc ≠ .rzDecideSum := by
  revert h; cases pc <;> decide

theorem writer_pcs {pc : Pc} : (oldPc pc = true → pastChk pc = true) ∧ (pastChk pc = true → hasBi pc = true) := by
  cases pc <;> decide

theorem pastChk_inDc {pc : Pc} (h : pastChk pc = true) : inDc pc = true := by
  revert h; cases pc <;> decide

theorem rcurPc_true {pc : Pc} (h : rcurPc pc = true) : isResizer pc = true := by
  revert h; cases pc <;> decide

theorem copyC_pcs {c : Nat} (h : copyC l = some c) :
    usesNewT l.pc = true ∧ rcurPc l.pc = true ∧ isResizer l.pc = true ∧ pastChk l.pc = false := by
  revert h; cases hp : l.pc <;> simp [copyC, hp, usesNewT, rcurPc, isResizer, pastChk]

theorem LD.writer (hr : rcurPc l.pc = false) (ht : l.tbl ≤ g.cur) (hf : ∀ f ∈ l.frames, f.tbl ≤ g.cur)
    (hb : hasBi l.pc = true → ∀ k, opKey l = some k → l.bi = bucketOf p g l.tbl k)
    (ho : oldPc l.pc = true → ∀ k, opKey l = some k → l.old = (g.tables l.tbl).data.get k) : LD p g l := by
  obtain ⟨h1, h2, h3, h4⟩ := rcurPc_false hr
  exact ⟨ht, hf, hb, ho, fun h => absurd h (ne_true_of_eq_false hr), fun h => absurd h h1, fun h => absurd h h2,
    fun c h => absurd (copyC_pcs h).1 h1, fun h => absurd h h3, fun h => absurd h h3, fun h => absurd h h4⟩

/-- pcs at which every guarded clause of `LD` is vacuous -/
def quietPc (pc : Pc) : Bool := !hasBi pc && !rcurPc pc

theorem LD.quiet (hq : quietPc l.pc = true) (ht : l.tbl ≤ g.cur) (hf : ∀ f ∈ l.frames, f.tbl ≤ g.cur) : LD p g l := by
  simp only [quietPc, Bool.and_eq_true, Bool.not_eq_true'] at hq
  have hb : ¬ hasBi l.pc = true := ne_true_of_eq_false hq.1
  exact .writer hq.2 ht hf (fun h => absurd h hb) (fun h => absurd (writer_pcs.2 (writer_pcs.1 h)) hb)

/-- a step of somebody else that only touches tables above `cur` (allocation, copy) or moves `cur` forward
(publish) does not disturb a thread that is not the resizer -/
theorem LD_other_nonres (hm : LD p g m) (hr : isResizer m.pc = false) (hc : g.cur ≤ g'.cur)
    (ht : ∀ T, T ≤ g.cur → (g'.tables T).len = (g.tables T).len ∧ (g'.tables T).data = (g.tables T).data) :
    LD p g' m := by
  have h1 := ht _ hm.tblLe
  refine .writer (Bool.eq_false_iff.mpr fun h => absurd (rcurPc_true h) (ne_true_of_eq_false hr)) (Nat.le_trans hm.tblLe hc)
    (fun f hf => Nat.le_trans (hm.framesLe f hf) hc) (fun h k hk => ?_) (fun h k hk => ?_)
  · rw [bucketOf_congr h1.1]; exact hm.bkt h k hk
  · rw [h1.2]; exact hm.old h k hk

/-- a commit of somebody else: the data of one table `T0 ≤ cur` changes at one key `k` -/
theorem LD_other_key {T0 : Nat} {k : K} (hm : LD p g m)
    (hc : g'.cur = g.cur) (hT0 : T0 ≤ g.cur)
    (hlen : ∀ T, (g'.tables T).len = (g.tables T).len)
    (hoth : ∀ T, T ≠ T0 → (g'.tables T).data = (g.tables T).data)
    (hkey : ∀ k2, k2 ≠ k → (g'.tables T0).data.get k2 = (g.tables T0).data.get k2)
    (hex : oldPc m.pc = true → m.tbl = T0 → opKey m ≠ some k)
    (hpair : ∀ c, copyC m = some c → m.rtbl = T0 → c ≤ bucketOf p g T0 k) : LD p g' m := by
  have hng : ∀ c, copyC m = some c → g.cur < m.newT := fun c hcc => hm.newGt (copyC_pcs hcc).1
  refine {
    tblLe := by rw [hc]; exact hm.tblLe
    framesLe := fun f hf => by rw [hc]; exact hm.framesLe f hf
    bkt := fun h k hk => by rw [bucketOf_congr (hlen _)]; exact hm.bkt h k hk
    old := fun h k2 hk => ?_
    rcur := fun h => by rw [hc]; exact hm.rcur h
    newGt := fun h => by rw [hc]; exact hm.newGt h
    noclr := hm.noclr
    copy := fun c hcc => ?_
    full := fun h1 h2 => by rw [hlen]; exact hm.full h1 h2
    clr := fun h1 h2 => ?_
    shr := fun h1 => by rw [hlen]; exact hm.shr h1 }
  · rw [hm.old h k2 hk]
    by_cases hT : m.tbl = T0
    · have hne : k2 ≠ k := by intro e; subst e; exact hex h hT hk
      rw [hT, hkey k2 hne]
    · rw [hoth _ hT]
  · have hn := hng c hcc
    have hnT : m.newT ≠ T0 := by omega
    have hcp := hm.copy c hcc
    by_cases hT : m.rtbl = T0
    · intro k2
      rw [hoth _ hnT, bucketOf_congr (hlen _)]
      by_cases hk : k2 = k
      · subst hk
        have := hpair c hcc hT
        have h2 := hcp k2
        rw [hT] at h2 ⊢
        rw [if_neg (by omega)] at h2 ⊢
        exact h2
      · rw [hT, hkey k2 hk, ← hT]; exact hcp k2
    · exact Copied_congr (hlen _) (hoth _ hT) (hoth _ hnT) hcp
  · have hn := hm.newGt (by rw [h1]; rfl)
    rw [hoth _ (by omega)]; exact hm.clr h1 h2

theorem tblLe_step (hd : LD p g l) (hs : tstep p t g l c = some (g', l')) :
    l'.tbl ≤ g.cur ∧ ∀ f ∈ l'.frames, f.tbl ≤ g.cur := by
  rcases frames_step hs with ⟨e1, e2⟩ | ⟨-, e1, e2⟩ | ⟨-, f, fs, e0, e1, -, e2⟩ <;> rw [e1]
  · exact ⟨by rcases e2 with e | e <;> rw [e] <;> first | exact hd.tblLe | exact Nat.le_refl _, hd.framesLe⟩
  · exact ⟨e2 ▸ hd.tblLe, fun f hf => (List.mem_cons.mp hf).elim (fun e => e ▸ hd.tblLe) (hd.framesLe f)⟩
  · have hf := fun f' (h : f' ∈ f :: fs) => hd.framesLe f' (e0 ▸ h)
    exact ⟨show (regs l').tbl ≤ _ from e2 ▸ hf f List.mem_cons_self, fun f' h => hf f' (List.mem_cons_of_mem _ h)⟩

/-! ### the stepping thread, quiet steps

`LD` reads the locals through `ldView` and guards every clause but the first two by the pc.  A step of the thread that
changes nothing `LD` reads of the globals keeps `LD` for one of three reasons: it leads to a pc at which no guard holds
(`LD.quiet`); it leaves `ldView` alone and leads to a pc whose guards hold already (`LD.jump`); or it is one of the five
steps that establish a clause. -/

def ldView (l : L K V) : Option (POp K V) × Nat × List (Frame K V) × Nat × Option V × Nat × Nat × Nat × Hint :=
  (l.op, l.tbl, l.frames, l.bi, l.old, l.rtbl, l.newT, l.ci, l.hint)

/-- every pc-guard of a clause of `LD` that holds at `a` holds at `b` -/
def GuardLe (a b : Pc) : Prop :=
  (hasBi a = true → hasBi b = true) ∧ (oldPc a = true → oldPc b = true) ∧ (rcurPc a = true → rcurPc b = true) ∧
  (usesNewT a = true → usesNewT b = true) ∧ (copyPc a = true → copyPc b = true) ∧ (a = .rzPublish → b = .rzPublish) ∧
  (a = .rzDecideSum → b = .rzDecideSum)

instance (a b : Pc) : Decidable (GuardLe a b) := by unfold GuardLe; infer_instance

theorem LD.jump (hd : LD p g l) (hv : ldView l' = ldView l) (a : Pc) {b : Pc} (ha : l'.pc = a) (hb : l.pc = b)
    (hle : GuardLe a b) (hc : copyC l' = none ∨ copyC l' = copyC l) : LD p g l' := by
  subst ha hb
  simp only [ldView, Prod.mk.injEq] at hv
  obtain ⟨v1, v2, v3, v4, v5, v6, v7, v8, v9⟩ := hv
  obtain ⟨g1, g2, g3, g4, g5, g6, g7⟩ := hle
  have hk : opKey l' = opKey l := by rw [opKey_eq, opKey_eq, v1]
  exact {
    tblLe := by rw [v2]; exact hd.tblLe
    framesLe := by rw [v3]; exact hd.framesLe
    bkt := fun h k hk' => by rw [v4, v2]; exact hd.bkt (g1 h) k (hk ▸ hk')
    old := fun h k hk' => by rw [v5, v2]; exact hd.old (g2 h) k (hk ▸ hk')
    rcur := fun h => by rw [v6]; exact hd.rcur (g3 h)
    newGt := fun h => by rw [v7]; exact hd.newGt (g4 h)
    noclr := fun h => by rw [v9]; exact hd.noclr (g5 h)
    copy := fun c hcc => by
      rw [v6, v7]
      rcases hc with e | e <;> rw [e] at hcc
      · cases hcc
      · exact hd.copy c hcc
    full := fun h hh => by rw [v6, v8]; exact hd.full (g6 h) (v9 ▸ hh)
    clr := fun h hh => by rw [v7]; exact hd.clr (g6 h) (v9 ▸ hh)
    shr := fun h => by rw [v6]; exact hd.shr (g7 h) }

theorem self_quiet (hd : LD p g l) (h2 : ¬ (l.pc = .rzDecide ∨ l.pc = .rzDecideSum)) (h3 : l.pc ≠ .rzCopyDo)
    (hs : tstep p t g l c = some (g', l')) : LD p g l' := by
  obtain ⟨ht, hf⟩ := tblLe_step hd hs
  by_cases hq : quietPc l'.pc = true
  · exact .quiet hq ht hf
  have hsrc := pc_entry (fun pc => !quietPc pc) _ (fun _ h => h) hs (by simpa using hq)
  cases hpc : l.pc <;> rw [hpc] at hsrc <;> cases hsrc <;>
    simp only [hpc, reduceCtorEq, not_true_eq_false, or_false, false_or, ne_eq, not_false_eq_true] at h2 h3 <;>
    simp only [tstep, hpc] at hs <;> (repeat' split at hs) <;>
    simp only [Option.some.injEq, reduceCtorEq, Prod.mk.injEq] at hs <;> obtain ⟨-, rfl⟩ := hs
  -- the branches of these ten steps that lead to a pc without guards are covered by `hq`
  any_goals exact absurd rfl hq
  · -- dcLoadTable loads the table and computes the bucket
    rename_i k hk
    exact .writer rfl ht hf (fun _ k' hk' => by cases hk.symm.trans hk'; rfl) nofun
  · -- dcLock
    exact hd.jump rfl .dcChkResizing rfl hpc (by decide) (Or.inl rfl)
  · -- dcChkResizing
    exact hd.jump rfl .dcChkTable rfl hpc (by decide) (Or.inl rfl)
  · -- dcChkTable
    exact hd.jump rfl .dcScan rfl hpc (by decide) (Or.inl rfl)
  -- dcScan (to `dcFn` with or without a binding, to `dcSum`) remembers the binding found
  iterate 3
    have hk := ‹opKey l = some _›
    exact .writer rfl ht hf (fun _ => hd.bkt (by rw [hpc]; rfl)) (fun _ k' hk' => by cases hk.symm.trans hk'; exact Eq.symm ‹_›)
  · -- dcSum, next stripe
    exact hd.jump rfl .dcSum rfl hpc (by decide) (Or.inl rfl)
  · -- dcSum, done
    exact hd.jump rfl .dcFn rfl hpc (by decide) (Or.inl rfl)
  · -- dcFn
    exact hd.jump rfl .dcCommit rfl hpc (by decide) (Or.inl rfl)
  · -- rzLoadTable loads the table to copy
    exact ⟨ht, hf, nofun, nofun, fun _ => rfl, nofun, nofun, nofun, nofun, nofun, nofun⟩
  · -- rzCopyLock
    exact hd.jump rfl .rzCopyDo rfl hpc (by decide) (Or.inr (by simp [copyC, hpc]))
  · -- rzCopyLock past the last bucket: the copy is complete
    rename_i hge
    have hn := hd.noclr (by rw [hpc]; rfl)
    exact ⟨ht, hf, nofun, nofun, fun _ => hd.rcur (by rw [hpc]; rfl), fun _ => hd.newGt (by rw [hpc]; rfl), nofun,
      fun c hc => hd.copy c (by simpa [copyC, hpc, hn] using hc), fun _ _ => Nat.le_of_not_lt hge, fun _ h => absurd h hn, nofun⟩
  · -- rzCopyUnlock goes on to the next bucket
    exact ⟨ht, hf, nofun, nofun, fun _ => hd.rcur (by rw [hpc]; rfl), fun _ => hd.newGt (by rw [hpc]; rfl),
      fun _ => hd.noclr (by rw [hpc]; rfl), fun c hc => hd.copy c (by simpa [copyC, hpc] using hc), nofun, nofun, nofun⟩

theorem commit_shape (hpc : l.pc = .dcCommit) (hs : tstep p t g l c = some (g', l')) :
    ∃ k nv del, opKey l = some k ∧ l.fnres = some (nv, del) ∧ l'.pc = .dcUnlock ∧ l'.tbl = l.tbl ∧ l'.frames = l.frames ∧
      ((∃ ov, l.old = some ov ∧ del = true ∧ l'.delta = -1 ∧
          g' = setTbl g l.tbl { g.tables l.tbl with data := (g.tables l.tbl).data.erase k }) ∨
       (∃ ov, l.old = some ov ∧ del = false ∧ l'.delta = 0 ∧
          g' = setTbl g l.tbl { g.tables l.tbl with data := (g.tables l.tbl).data.set k nv }) ∨
       (l.old = none ∧ del = true ∧ l'.delta = 0 ∧ g' = g) ∨
       (l.old = none ∧ del = false ∧ l'.delta = 1 ∧
          g' = setTbl g l.tbl { g.tables l.tbl with data := (g.tables l.tbl).data.set k nv })) := by
  simp only [tstep, hpc] at hs
  split at hs
  · rename_i k nv del hk hf
    refine ⟨k, nv, del, hk, hf, ?_⟩
    (repeat' split at hs) <;> simp only [Option.some.injEq, Prod.mk.injEq] at hs <;> obtain ⟨rfl, rfl⟩ := hs <;>
      simp_all
  · simp at hs

/-- what a step does to the tables when it changes the data of one table at one key -/
def KeyFrame (g g' : G K V) (T0 : Nat) (k : K) : Prop :=
    g'.cur = g.cur ∧ g'.ntables = g.ntables ∧ (∀ T, (g'.tables T).len = (g.tables T).len ∧ (g'.tables T).ctr = (g.tables T).ctr) ∧
    (∀ T, T ≠ T0 → (g'.tables T).data = (g.tables T).data) ∧
    (∀ k2, k2 ≠ k → (g'.tables T0).data.get k2 = (g.tables T0).data.get k2) ∧
    (AMap.WF (g.tables T0).data → AMap.WF (g'.tables T0).data)

theorem keyFrame_set {T0 : Nat} {k : K} {d : AMap K V}
    (hd : ∀ k2, k2 ≠ k → d.get k2 = (g.tables T0).data.get k2)
    (hw : AMap.WF (g.tables T0).data → AMap.WF d) :
    KeyFrame g (setTbl g T0 { g.tables T0 with data := d }) T0 k := by
  refine ⟨rfl, rfl, fun T => ⟨setTbl_keeps (·.len) (by rfl) T, setTbl_keeps (·.ctr) (by rfl) T⟩, fun T hT => ?_, fun k2 h2 => ?_, ?_⟩
  · simp only [setTbl, if_neg hT]
  · simp only [setTbl, if_true]; exact hd k2 h2
  · simp only [setTbl, if_true]; exact hw

theorem commit_frame (hpc : l.pc = .dcCommit) (hs : tstep p t g l c = some (g', l')) :
    ∀ k, opKey l = some k → KeyFrame g g' l.tbl k := by
  obtain ⟨k, nv, del, hk, hf, -, -, -, hcase⟩ := commit_shape hpc hs
  intro k' hk'
  rw [hk] at hk'; cases hk'
  rcases hcase with ⟨ov, -, -, -, e⟩ | ⟨ov, -, -, -, e⟩ | ⟨-, -, -, e⟩ | ⟨-, -, -, e⟩
  · rw [e]; exact keyFrame_set (fun k2 h2 => by rw [AMap.get_erase, if_neg (Ne.symm h2)]) (AMap.WF_erase _ _)
  · rw [e]; exact keyFrame_set (fun k2 h2 => by rw [AMap.get_set, if_neg (Ne.symm h2)]) (AMap.WF_set _ _ _)
  · subst e; exact ⟨rfl, rfl, fun _ => ⟨rfl, rfl⟩, fun _ _ => rfl, fun _ _ => rfl, id⟩
  · rw [e]; exact keyFrame_set (fun k2 h2 => by rw [AMap.get_set, if_neg (Ne.symm h2)]) (AMap.WF_set _ _ _)

theorem step_dcAddSize (hpc : l.pc = .dcAddSize) (hs : tstep p t g l c = some (g', l')) :
    g' = setTbl g l.tbl ((g.tables l.tbl).addCtr (p.stripes (g.tables l.tbl).len) l.bi l.delta) ∧
      l' = { l with pc := .dcMaybeShrink } := by
  simp only [tstep, hpc, Option.some.injEq, Prod.mk.injEq] at hs
  exact ⟨hs.1.symm, hs.2.symm⟩

theorem step_rzCopyDo (hpc : l.pc = .rzCopyDo) (hs : tstep p t g l c = some (g', l')) :
    g' = setTbl g l.newT { (g.tables l.newT).addCtr (p.stripes (g.tables l.newT).len) l.ci (bucketEntries p g l.rtbl l.ci).length with
        data := copyInto (g.tables l.newT).data (bucketEntries p g l.rtbl l.ci) } ∧
      l' = { l with pc := .rzCopyUnlock } := by
  simp only [tstep, hpc, Option.some.injEq, Prod.mk.injEq] at hs
  exact ⟨hs.1.symm, hs.2.symm⟩

theorem step_rzPublish (hpc : l.pc = .rzPublish) (hs : tstep p t g l c = some (g', l')) :
    g' = { g with cur := l.newT } ∧ l' = { l with pc := .rzMuLock } := by
  simp only [tstep, hpc, Option.some.injEq, Prod.mk.injEq] at hs
  exact ⟨hs.1.symm, hs.2.symm⟩

inductive TEff (g : G K V) (l : L K V) (g' : G K V) : Prop
  | quiet : SameT g g' → (l.pc ≠ .dcAddSize → ∀ T, (g'.tables T).ctr = (g.tables T).ctr) → TEff g l g'
  | commit (k : K) : l.pc = .dcCommit → opKey l = some k → KeyFrame g g' l.tbl k → TEff g l g'
  | alloc (len : Nat) : (l.pc = .rzDecide ∨ l.pc = .rzDecideSum) → g'.cur = g.cur → g'.ntables = g.ntables + 1 →
      g'.tables g.ntables = emptyTbl len → (∀ T, T ≠ g.ntables → g'.tables T = g.tables T) → TEff g l g'
  | copy : l.pc = .rzCopyDo → g'.cur = g.cur → g'.ntables = g.ntables → (g'.tables l.newT).len = (g.tables l.newT).len →
      (∀ T, T ≠ l.newT → g'.tables T = g.tables T) → TEff g l g'
  | publish : l.pc = .rzPublish → g' = { g with cur := l.newT } → TEff g l g'

theorem step_teff (hs : tstep p t g l c = some (g', l')) : TEff g l g' := by
  have same : TEff g l g := .quiet ⟨rfl, rfl, fun _ => ⟨rfl, rfl⟩⟩ fun _ _ => rfl
  have lock : ∀ T i o, TEff g l (setTbl g T ((g.tables T).setLock i o)) := fun T i o =>
    .quiet (sameT_setTbl rfl rfl) fun _ => setTbl_keeps (·.ctr) rfl
  cases hpc : l.pc
  case dcCommit =>
    obtain ⟨k, _, _, hk, -⟩ := commit_shape hpc hs
    exact .commit k hpc hk (commit_frame hpc hs k hk)
  case dcAddSize => obtain ⟨rfl, -⟩ := step_dcAddSize hpc hs; exact .quiet (sameT_setTbl rfl rfl) fun h => absurd hpc h
  case rzDecide | rzDecideSum =>
    simp only [tstep, hpc] at hs
    (repeat' split at hs) <;> simp only [Option.some.injEq, Prod.mk.injEq] at hs <;> obtain ⟨rfl, -⟩ := hs <;>
      first | exact same | exact .alloc _ (by simp [hpc]) rfl rfl (if_pos rfl) (fun T hT => if_neg hT)
  case rzCopyDo =>
    obtain ⟨rfl, -⟩ := step_rzCopyDo hpc hs
    exact .copy hpc rfl rfl (by rw [setTbl_tables, if_pos rfl]; rfl) (fun T hT => if_neg hT)
  case rzPublish => obtain ⟨rfl, -⟩ := step_rzPublish hpc hs; exact .publish hpc rfl
  -- every other step takes or gives back a bucket lock, or writes to none of the tables
  all_goals
    simp only [tstep, hpc] at hs
    (repeat' split at hs) <;> simp only [Option.some.injEq, reduceCtorEq, Prod.mk.injEq] at hs <;> obtain ⟨rfl, -⟩ := hs <;>
      first | exact lock _ _ _ | exact .quiet ⟨rfl, rfl, fun _ => ⟨rfl, rfl⟩⟩ fun _ _ => rfl

theorem TEff.sameT (h : TEff g l g') (h1 : l.pc ≠ .dcCommit)
    (h2 : ¬ (l.pc = .rzDecide ∨ l.pc = .rzDecideSum)) (h3 : l.pc ≠ .rzCopyDo) (h4 : l.pc ≠ .rzPublish) : SameT g g' := by
  rcases h with ⟨h, -⟩ | ⟨-, e, -⟩ | ⟨-, e, -⟩ | ⟨e, -⟩ | ⟨e, -⟩
  · exact h
  · exact absurd e h1
  · exact absurd e h2
  · exact absurd e h3
  · exact absurd e h4

/-- **the frame of a step**: `cur` moves only by publishing; the length of an allocated generation never changes; the data
of an allocated generation other than the one under construction changes only by a commit on it, at the key of the call -/
theorem step_frame (hs : tstep p t g l c = some (g', l')) :
    (g'.cur = g.cur ∨ (l.pc = .rzPublish ∧ g' = { g with cur := l.newT })) ∧
    (∀ T, T < g.ntables → (g'.tables T).len = (g.tables T).len) ∧
    (∀ T, T < g.ntables → (l.pc = .rzCopyDo → T ≠ l.newT) → (g'.tables T).data = (g.tables T).data ∨
      (l.pc = .dcCommit ∧ l.tbl = T ∧ g'.cur = g.cur ∧
        ∃ k, opKey l = some k ∧ ∀ k2, k2 ≠ k → (g'.tables T).data.get k2 = (g.tables T).data.get k2)) := by
  rcases step_teff hs with ⟨h, -⟩ | ⟨k, hpc, hk, hc, -, hlen, hoth, hkey, -⟩ |
      ⟨len, -, hc, -, -, hoth⟩ | ⟨hpc, hc, -, hlen, hoth⟩ | ⟨hpc, e⟩
  · exact ⟨Or.inl h.1, fun T _ => (h.2.2 T).1, fun T _ _ => Or.inl (h.2.2 T).2⟩
  · refine ⟨Or.inl hc, fun T _ => (hlen T).1, fun T _ _ => ?_⟩
    by_cases hT : T = l.tbl
    · subst hT; exact Or.inr ⟨hpc, rfl, hc, k, hk, hkey⟩
    · exact Or.inl (hoth T hT)
  · exact ⟨Or.inl hc, fun T hT => by rw [hoth T (by omega)], fun T hT _ => Or.inl (by rw [hoth T (by omega)])⟩
  · refine ⟨Or.inl hc, fun T _ => ?_, fun T _ hn => Or.inl (by rw [hoth T (hn hpc)])⟩
    by_cases hT : T = l.newT
    · subst hT; exact hlen
    · rw [hoth T hT]
  · subst e; exact ⟨Or.inr ⟨hpc, rfl⟩, fun T _ => rfl, fun T _ _ => Or.inl rfl⟩

theorem step_len (hs : tstep p t g l c = some (g', l')) : ∀ T, T < g.ntables → (g'.tables T).len = (g.tables T).len :=
  (step_frame hs).2.1

/-- the frame of a published generation `T ≤ cur`: the copy writes to a younger, unpublished one (`LD.newGt`) -/
theorem published_frame (hg : GI g) (hd : LD p g l) (hs : tstep p t g l c = some (g', l')) (T : Nat) (hT : T ≤ g.cur) :
    (g'.tables T).data = (g.tables T).data ∨
      (l.pc = .dcCommit ∧ l.tbl = T ∧ g'.cur = g.cur ∧
        ∃ k, opKey l = some k ∧ ∀ k2, k2 ≠ k → (g'.tables T).data.get k2 = (g.tables T).data.get k2) := by
  refine (step_frame hs).2.2 T (Nat.lt_of_le_of_lt hT hg.2) (fun h => ?_)
  have := hd.newGt (by rw [h]; rfl)
  omega

/-- `GD` looks at the tables only -/
theorem GD.setTbl (hgd : GD g) {T : Nat} {tb : PTbl K V} (e : g'.tables = (setTbl g T tb).tables)
    (hw : AMap.WF tb.data) (hl : 0 < tb.len) : GD g' :=
  ⟨fun T' => by rw [e, setTbl_tables]; split; exact hw; exact hgd.wf T',
    fun T' => by rw [e, setTbl_tables]; split; exact hl; exact hgd.lenPos T'⟩

theorem self_rzDecide (hmin : 0 < p.minLen) (hg : GI g) (hgd : GD g) (hd : LD p g l)
    (hpc : l.pc = .rzDecide ∨ l.pc = .rzDecideSum) (hs : tstep p t g l c = some (g', l')) : GD g' ∧ LD p g' l' := by
  have hrc : l.rtbl = g.cur := hd.rcur (by rcases hpc with e | e <;> rw [e] <;> rfl)
  have hlen := hgd.lenPos l.rtbl
  have hshr := hd.shr
  have hn := hd.noclr
  have hdn : ∀ {len}, ((setTbl g g.ntables (emptyTbl (K := K) (V := V) len)).tables g.ntables).data = [] := by
    intro len; rw [setTbl_tables, if_pos rfl]; rfl
  -- a fresh generation `g.ntables` of `len` buckets, and the resizer about to copy into it: nothing is copied yet
  have copying : ∀ {len gr sh : Nat}, 0 < len → l.hint ≠ .clear →
      GD { setTbl g g.ntables (emptyTbl len) with ntables := g.ntables + 1, growths := gr, shrinks := sh } ∧
      LD p { setTbl g g.ntables (emptyTbl len) with ntables := g.ntables + 1, growths := gr, shrinks := sh }
        { l with pc := .rzCopyLock, newT := g.ntables, ci := 0 } := fun h hh =>
    ⟨hgd.setTbl rfl AMap.WF_nil h, hd.tblLe, hd.framesLe, nofun, nofun, fun _ => hrc, fun _ => hg.2, fun _ => hh,
      fun c hcc k => by cases hcc; exact hdn ▸ rfl, nofun, nofun, nofun⟩
  rcases hpc with hpc | hpc <;> simp only [tstep, hpc] at hs hshr hn <;> (repeat' split at hs) <;> cases hs
  · -- grow
    exact copying (by omega) (by simp [*])
  · -- shrink, the table is long enough: sum the counter
    exact ⟨hgd, hd.tblLe, hd.framesLe, nofun, nofun, fun _ => hrc, nofun, fun _ => by simp [*], nofun, nofun, nofun,
      fun _ => ‹_›⟩
  · exact ⟨hgd, .quiet rfl hd.tblLe hd.framesLe⟩
  · -- clear: an empty table to publish
    have hh := ‹l.hint = .clear›
    exact ⟨hgd.setTbl rfl AMap.WF_nil hmin, hd.tblLe, hd.framesLe, nofun, nofun, fun _ => hrc, fun _ => hg.2, nofun,
      fun c hcc => by simp [copyC, hh] at hcc, fun _ h => absurd hh h, fun _ _ => hdn, nofun⟩
  · exact ⟨hgd, hd.jump rfl .rzDecideSum rfl hpc (by decide) (Or.inl rfl)⟩
  · -- the sum is below the threshold: shrink
    exact copying (by have := hshr trivial; omega) (hn rfl)
  · exact ⟨hgd, .quiet rfl hd.tblLe hd.framesLe⟩

theorem get_bucketEntries (p : Params K) (g : G K V) (T i : Nat) (k : K) :
    AMap.get (bucketEntries p g T i) k = if bucketOf p g T k = i then (g.tables T).data.get k else none :=
  (AMap.get_filter_key (g.tables T).data (fun k => bucketOf p g T k == i) k).trans (by simp only [beq_iff_eq])

theorem mem_bucketEntries {T i : Nat} {e : K × V} :
    e ∈ bucketEntries p g T i ↔ e ∈ (g.tables T).data ∧ bucketOf p g T e.1 = i := by
  simp [bucketEntries]

theorem Copied_copyDo {o n c : Nat} {nt' : PTbl K V} (hne : o ≠ n)
    (hw : AMap.WF (g.tables o).data) (h : Copied p g o n c)
    (hd : nt'.data = copyInto (g.tables n).data (bucketEntries p g o c)) :
    Copied p (setTbl g n nt') o n (c + 1) := by
  intro k
  have ho : (setTbl g n nt').tables o = g.tables o := if_neg hne
  rw [ho, bucketOf_congr (congrArg PTbl.len ho), show (setTbl g n nt').tables n = nt' from if_pos rfl, hd,
    get_copyInto _ (bucketEntries p g o c) (AMap.WF_filter _ _ hw), get_bucketEntries, h k]
  by_cases h1 : bucketOf p g o k = c
  · rw [if_pos h1, if_neg (by omega), if_pos (by omega), Option.or_none]
  · rw [if_neg h1, Option.none_or]
    by_cases h2 : bucketOf p g o k < c
    · rw [if_pos h2, if_pos (by omega)]
    · rw [if_neg h2, if_neg (by omega)]

theorem length_copyDo {o n c : Nat} (hw : AMap.WF (g.tables o).data) (h : Copied p g o n c) :
    (copyInto (g.tables n).data (bucketEntries p g o c)).length = (g.tables n).data.length + (bucketEntries p g o c).length := by
  refine length_copyInto _ _ (AMap.WF_filter _ _ hw) fun k v hk => ?_
  rw [get_bucketEntries] at hk
  split at hk
  · rw [h k, if_neg (by omega)]
  · cases hk

theorem holds_pastChk (h : pastChk l.pc = true) : holdsBucket l = some (l.tbl, l.bi) := by
  revert h; cases hp : l.pc <;> simp [pastChk, holdsBucket, hp]

theorem other_LD (hne : u ≠ t) (hg : GI g) (hlt : LI t g l) (hlu : LI u g m)
    (hdt : LD p g l) (hdm : LD p g m) (hpair : Pair m l)
    (hs : tstep p t g l c = some (g', l')) : LD p g' m := by
  have hcur := hg.2
  have hnr : isResizer l.pc = true → isResizer m.pc = false := fun h =>
    Bool.eq_false_iff.mpr fun hm => hne (resizer_excl hlt hlu h hm).symm
  rcases step_teff hs with ⟨h, -⟩ | ⟨k, h1, hk, hc, -, hlen, hoth, hkey, -⟩ |
      ⟨len, h2, hc, -, -, hoth⟩ | ⟨h3, hc, -, -, hoth⟩ | ⟨h4, e⟩
  · exact LD_same h hdm
  · have hbi : l.bi = bucketOf p g l.tbl k := hdt.bkt (by rw [h1]; rfl) k hk
    refine LD_other_key hdm hc hdt.tblLe (fun T => (hlen T).1) hoth hkey ?_ ?_
    · -- a writer that has scanned the same key of the same table would hold the same bucket lock
      intro hpc hT hmk
      have hp := writer_pcs.1 hpc
      refine hne (holds_excl hlt hlu (holds_pastChk (by rw [h1]; rfl)) ?_).symm
      rw [holds_pastChk hp, hdm.bkt (writer_pcs.2 hp) k hmk, hT, hbi]
    · intro c hcc hT
      rw [← hbi]
      exact hpair c hcc (by rw [h1]; rfl) hT.symm
  · exact LD_other_nonres hdm (hnr (by rcases h2 with e | e <;> rw [e] <;> rfl)) (by omega)
      fun T hT => by rw [hoth T (by omega)]; exact ⟨rfl, rfl⟩
  · have hgt : g.cur < l.newT := hdt.newGt (by rw [h3]; rfl)
    exact LD_other_nonres hdm (hnr (by rw [h3]; rfl)) (by omega) fun T hT => by rw [hoth T (by omega)]; exact ⟨rfl, rfl⟩
  · have hgt : g.cur < l.newT := hdt.newGt (by rw [h4]; rfl)
    subst e
    exact LD_other_nonres hdm (hnr (by rw [h4]; rfl)) (Nat.le_of_lt hgt) fun T hT => ⟨rfl, rfl⟩

theorem self_LD (hmin : 0 < p.minLen) (hg : GI g) (hgd : GD g) (hd : LD p g l)
    (hs : tstep p t g l c = some (g', l')) : GD g' ∧ LD p g' l' := by
  by_cases h1 : l.pc = .dcCommit
  · obtain ⟨k, _, _, hk, -, hpc', htbl, hfr, -⟩ := commit_shape h1 hs
    obtain ⟨hc, -, hlen, hoth, -, hwf⟩ := commit_frame h1 hs k hk
    refine ⟨⟨fun T => ?_, fun T => by rw [(hlen T).1]; exact hgd.lenPos T⟩,
      .quiet (by rw [hpc']; rfl) (by rw [htbl, hc]; exact hd.tblLe) (by rw [hfr, hc]; exact hd.framesLe)⟩
    by_cases hT : T = l.tbl
    · subst hT; exact hwf (hgd.wf _)
    · rw [hoth T hT]; exact hgd.wf T
  by_cases h2 : l.pc = .rzDecide ∨ l.pc = .rzDecideSum
  · exact self_rzDecide hmin hg hgd hd h2 hs
  by_cases h3 : l.pc = .rzCopyDo
  · obtain ⟨rfl, rfl⟩ := step_rzCopyDo h3 hs
    have hrc : l.rtbl = g.cur := hd.rcur (by rw [h3]; rfl)
    have hgt : g.cur < l.newT := hd.newGt (by rw [h3]; rfl)
    have hne : l.rtbl ≠ l.newT := by omega
    refine ⟨hgd.setTbl rfl (WF_copyInto _ _ (hgd.wf _)) (hgd.lenPos _), hd.tblLe, hd.framesLe, nofun, nofun, fun _ => hrc,
      fun _ => hgt, fun _ => hd.noclr (by rw [h3]; rfl), fun c hcc => ?_, nofun, nofun, nofun⟩
    cases hcc
    exact Copied_copyDo hne (hgd.wf _) (hd.copy l.ci (by simp [copyC, h3])) rfl
  by_cases h4 : l.pc = .rzPublish
  · obtain ⟨rfl, rfl⟩ := step_rzPublish h4 hs
    have hgt := Nat.le_of_lt (hd.newGt (by rw [h4]; rfl))
    exact ⟨⟨hgd.wf, hgd.lenPos⟩, .quiet rfl (Nat.le_trans hd.tblLe hgt) fun f hf => Nat.le_trans (hd.framesLe f hf) hgt⟩
  have hsd := (step_teff hs).sameT h1 h2 h3 h4
  exact ⟨GD_same hsd hgd, LD_same hsd (self_quiet hd h2 h3 hs)⟩

theorem pastChk_entry (hs : tstep p t g l c = some (g', l')) (h : pastChk l'.pc = true) :
    l'.tbl = l.tbl ∧ l'.op = l.op ∧ l'.bi = l.bi ∧ g' = g ∧
      ((l.pc = .dcChkResizing ∧ g.resizing = false ∧ l'.pc = .dcChkTable) ∨ (l.pc = .dcChkTable ∧ g.cur = l.tbl) ∨
       (pastChk l.pc = true ∧ l.pc ≠ .dcChkTable ∧ l.pc ≠ .dcCommit)) := by
  have hsrc := pc_entry pastChk _ (fun _ h => h) hs h
  cases hpc : l.pc <;> rw [hpc] at hsrc <;> cases hsrc <;>
    simp only [tstep, hpc] at hs <;> (repeat' split at hs) <;>
    simp only [Option.some.injEq, reduceCtorEq, Prod.mk.injEq] at hs <;> obtain ⟨rfl, rfl⟩ := hs <;>
    simp_all [pastChk]

theorem copyC_step (hs : tstep p t g l c = some (g', l')) :
    copyC l' = none ∨ copyC l' = some 0 ∨
      (l'.rtbl = l.rtbl ∧ (copyC l' = copyC l ∨ (l.pc = .rzCopyDo ∧ copyC l = some l.ci ∧ copyC l' = some (l.ci + 1)))) := by
  cases hq : copyC l' with
  | none => exact Or.inl rfl
  | some c' =>
  have hn := (copyC_pcs hq).1
  have hsrc := pc_entry usesNewT _ (fun _ h => h) hs hn
  rw [← hq]
  cases hpc : l.pc <;> rw [hpc] at hsrc <;> cases hsrc <;>
    simp only [tstep, hpc] at hs <;> (repeat' split at hs) <;>
    simp only [Option.some.injEq, reduceCtorEq, Prod.mk.injEq] at hs <;> obtain ⟨-, rfl⟩ := hs <;>
    simp_all [copyC, usesNewT] <;> (by_cases hh : l.hint = Hint.clear <;> simp [hh])

theorem pair_refl (l : L K V) : Pair l l := by
  intro c hc hp; rw [(copyC_pcs hc).2.2.2] at hp; cases hp

theorem pair_self_r (hne : u ≠ t) (hlt : LI t g l) (hlu : LI u g m) (hp : Pair l m)
    (hs : tstep p t g l c = some (g', l')) : Pair l' m := by
  intro c' hc' hpm htb
  rcases copyC_step hs with h | h | ⟨hr, h | ⟨hpc, h1, h2⟩⟩
  · rw [h] at hc'; cases hc'
  · rw [h] at hc'; cases hc'; exact Nat.zero_le _
  · rw [h] at hc'; rw [hr] at htb; exact hp c' hc' hpm htb
  · rw [h2] at hc'; cases hc'
    rw [hr] at htb
    have := hp _ h1 hpm htb
    -- the bucket being copied is locked by the resizer, so it is not the writer's
    have hne' : m.bi ≠ l.ci := fun e =>
      hne (holds_excl (T := l.rtbl) (i := l.ci) hlt hlu (by simp [holdsBucket, hpc]) (by rw [holds_pastChk hpm, htb, e])).symm
    omega

theorem pair_self_u (hg : GI g) (hlu : LI u g m) (hp : Pair m l)
    (hs : tstep p t g l c = some (g', l')) : Pair m l' := by
  intro c' hc' hpl htb
  obtain ⟨ht, -, hb, -, hcase⟩ := pastChk_entry hs hpl
  rw [ht] at htb; rw [hb]
  rcases hcase with ⟨-, hrz, -⟩ | ⟨h, -⟩ | ⟨h, -⟩
  · -- the writer has just seen `resizing = false`, so nobody is copying
    have hr := hlu.rsz.mpr (copyC_pcs hc').2.2.1
    have := hg.1.mpr (by rw [hr]; rfl)
    rw [hrz] at this; cases this
  · exact hp c' hc' (by rw [h]; rfl) htb
  · exact hp c' hc' h htb

def psum (c : Nat → Int) (n : Nat) : Int := ((List.range n).map c).sum

theorem total_eq (t : PTbl K V) (n : Nat) : t.total n = psum t.ctr n := rfl

theorem psum_zero (c : Nat → Int) : psum c 0 = 0 := rfl

theorem psum_succ (c : Nat → Int) (n : Nat) : psum c (n + 1) = psum c n + c n := by
  simp [psum, List.range_succ, List.map_append, List.sum_append]

theorem psum_tail {c : Nat → Int} {N M : Nat} (h : ∀ u, N ≤ u → c u = 0) (hM : N ≤ M) : psum c M = psum c N := by
  induction hM with
  | refl => rfl
  | step hm ih => rw [psum_succ, ih, h _ hm, Int.add_zero]

theorem psum_differ {c c' : Nat → Int} {j : Nat} (h : ∀ i, i ≠ j → c' i = c i) (m : Nat) :
    psum c' m = psum c m + (if j < m then c' j - c j else 0) := by
  induction m with
  | zero => simp [psum_zero]
  | succ m ih =>
    rw [psum_succ, psum_succ, ih]
    by_cases h1 : m = j
    · subst h1; simp; omega
    · rw [h m h1]; split <;> split <;> omega

theorem total_addCtr (t : PTbl K V) (n bi : Nat) (d : Int) (hn : 0 < n) :
    (t.addCtr n bi d).total n = t.total n + d := by
  rw [total_eq, total_eq, psum_differ (c := t.ctr) (c' := (t.addCtr n bi d).ctr) (j := bi % n) (fun i hi => if_neg hi),
    if_pos (Nat.mod_lt _ hn)]
  show _ + ((if bi % n = bi % n then t.ctr (bi % n) + d else _) - _) = _
  rw [if_pos rfl]; omega

theorem total_emptyTbl (len n : Nat) : (emptyTbl (K := K) (V := V) len).total n = 0 :=
  psum_tail (N := 0) (fun _ _ => rfl) (Nat.zero_le n)

def pendDelta (l : L K V) (T : Nat) : Int := if pendingOn l T then l.delta else 0

theorem pendDelta_of_pc {T : Nat} (h1 : l.pc ≠ .dcUnlock) (h2 : l.pc ≠ .dcAddSize) : pendDelta l T = 0 := by
  simp [pendDelta, pendingOn, h1, h2]

theorem pendDelta_of_tbl {T : Nat} (h : l.tbl ≠ T) : pendDelta l T = 0 := by
  simp [pendDelta, pendingOn, h]

theorem pendDelta_pending {T : Nat} (h1 : l.pc = .dcUnlock ∨ l.pc = .dcAddSize) (h : l.tbl = T) :
    pendDelta l T = l.delta := by
  rcases h1 with h1 | h1 <;> simp [pendDelta, pendingOn, h1, h]

theorem pendSum_eq (s : St K V) (T n : Nat) : pendSum s T n = psum (fun u => pendDelta (s.l u) T) n := by
  induction n with
  | zero => rfl
  | succ n ih => rw [psum_succ, ← ih]; rfl

theorem pendSum_zero {s : St K V} {T : Nat} (h : ∀ u, pendDelta (s.l u) T = 0) (N : Nat) : pendSum s T N = 0 := by
  rw [pendSum_eq]; exact psum_tail (N := 0) (fun u _ => h u) (Nat.zero_le N)

theorem pendDelta_step (hs : tstep p t g l c = some (g', l')) (h1 : l.pc ≠ .dcCommit) (h2 : l.pc ≠ .dcAddSize) (T : Nat) :
    pendDelta l' T = pendDelta l T := by
  by_cases hu : l.pc = .dcUnlock
  · simp only [tstep, hu, Option.some.injEq, Prod.mk.injEq] at hs
    obtain ⟨-, rfl⟩ := hs
    simp [pendDelta, pendingOn, hu]
  rw [pendDelta_of_pc hu h2]
  by_cases hq : l'.pc = .dcUnlock ∨ l'.pc = .dcAddSize
  · -- a thread with no pending delta gets one by the commit, or by a `loadIfExists` hit, whose delta is zero
    have hsrc := pc_entry (fun a => a == .dcUnlock || a == .dcAddSize) _ (fun _ h => h) hs (by simpa using hq)
    cases hpc : l.pc <;> rw [hpc] at hsrc <;> cases hsrc
    · simp only [tstep, hpc] at hs
      (repeat' split at hs) <;> simp only [Option.some.injEq, reduceCtorEq, Prod.mk.injEq] at hs <;> obtain ⟨-, rfl⟩ := hs <;>
        simp [pendDelta, pendingOn] at hq ⊢
    · exact absurd hpc h1
    · exact absurd hpc hu
  · simp only [not_or] at hq; exact pendDelta_of_pc hq.1 hq.2

/-- counter invariant of table `T`: (atomic) sum of the counter stripes + pending deltas = number of entries.
(Every table has at least one stripe — `hst`; with zero stripes `addSize` would add to a stripe that is never summed.) -/
def CntT (p : Params K) (s : St K V) (T : Nat) : Prop :=
  (∀ n, 0 < p.stripes n) → ∀ N, (∀ u : Nat, N ≤ u → pendingOn (s.l u) T = false) →
    (s.g.tables T).total (p.stripes (s.g.tables T).len) + pendSum s T N = ((s.g.tables T).data.length : Int)

/-- the part of the counter equation of table `T` that a step of a thread with locals `l` can change -/
def bal (p : Params K) (g : G K V) (l : L K V) (T : Nat) : Int :=
  (g.tables T).total (p.stripes (g.tables T).len) + pendDelta l T - ((g.tables T).data.length : Int)

theorem cntT_step {s : St K V} {T : Nat} (h : CntT p s T)
    (heq : (∀ n, 0 < p.stripes n) → bal p g' l' T = bal p s.g (s.l t) T) :
    CntT p { g := g', l := fun x => if x = t then l' else s.l x } T := by
  intro hst N hN
  have heq := heq hst
  -- compare the two sums at a bound above `t`
  have h1 := h hst (N + t + 1) fun u hu => by have := hN u (by omega); dsimp only at this; rwa [if_neg (show ¬ u = t by omega)] at this
  have h2 := psum_tail (c := fun u => pendDelta ((if u = t then l' else s.l u)) T) (N := N) (M := N + t + 1)
    (fun u hu => by simp [pendDelta, hN u hu]) (by omega)
  have h3 := psum_differ (c := fun u => pendDelta (s.l u) T) (c' := fun u => pendDelta ((if u = t then l' else s.l u)) T)
    (j := t) (fun i hi => by rw [if_neg hi]) (N + t + 1)
  rw [if_pos (by omega), if_pos rfl] at h3
  rw [pendSum_eq] at h1 ⊢
  unfold bal at heq
  dsimp only at h2 h3 ⊢
  omega

theorem bal_step (hgd : GD g) (hd : LD p g l) (hst : ∀ n, 0 < p.stripes n) (hs : tstep p t g l c = some (g', l'))
    {T : Nat} (hT : T < g.ntables) : bal p g' l' T = bal p g l T := by
  unfold bal
  by_cases h1 : l.pc = .dcCommit
  · -- the delta the writer keeps is the change of the number of entries
    obtain ⟨k, nv, del, hk, -, hpc', htbl, -, hcase⟩ := commit_shape h1 hs
    obtain ⟨-, -, hlen, hoth, -, -⟩ := commit_frame h1 hs k hk
    have hold := hd.old (by rw [h1]; rfl) k hk
    have hw := hgd.wf l.tbl
    rw [total_eq, total_eq, (hlen T).1, (hlen T).2, pendDelta_of_pc (l := l) (by rw [h1]; nofun) (by rw [h1]; nofun)]
    by_cases hTe : l.tbl = T
    · subst hTe
      rw [pendDelta_pending (Or.inl hpc') htbl]
      rcases hcase with ⟨ov, ho, -, hdl, rfl⟩ | ⟨ov, ho, -, hdl, rfl⟩ | ⟨ho, -, hdl, rfl⟩ | ⟨ho, -, hdl, rfl⟩ <;>
        rw [ho] at hold <;> rw [hdl] <;> simp only [setTbl, if_true]
      · have := AMap.length_erase_of_get_some _ hw k ov hold.symm; omega
      · have := AMap.length_set_of_get_some _ hw k nv ov hold.symm; omega
      · have := AMap.length_set_of_get_none _ k nv hold.symm; omega
    · rw [pendDelta_of_tbl (by rw [htbl]; exact hTe), hoth T (Ne.symm hTe)]
  by_cases h2 : l.pc = .dcAddSize
  · obtain ⟨rfl, rfl⟩ := step_dcAddSize h2 hs
    rw [pendDelta_of_pc (T := T) (l := { l with pc := .dcMaybeShrink }) nofun nofun]
    by_cases hTe : l.tbl = T
    · subst hTe
      rw [pendDelta_pending (Or.inr h2) rfl]
      simp only [setTbl, if_true]
      show PTbl.total (PTbl.addCtr _ _ _ _) (p.stripes (g.tables l.tbl).len) + _ - ((g.tables l.tbl).data.length : Int) = _
      rw [total_addCtr _ _ _ _ (hst _)]; omega
    · rw [pendDelta_of_tbl hTe]; simp only [setTbl, if_neg (Ne.symm hTe)]
  by_cases h3 : l.pc = .rzCopyDo
  · have hlen := length_copyDo (n := l.newT) (hgd.wf _) (hd.copy l.ci (by simp [copyC, h3]))
    have hcb := pendDelta_step hs h1 h2 T
    obtain ⟨rfl, rfl⟩ := step_rzCopyDo h3 hs
    rw [hcb]
    by_cases hTe : T = l.newT
    · subst hTe
      simp only [setTbl, if_true]
      show PTbl.total (PTbl.addCtr _ _ _ _) (p.stripes (g.tables l.newT).len) + _ - ((copyInto _ _).length : Int) = _
      rw [total_addCtr _ _ _ _ (hst _), hlen, Int.natCast_add]; omega
    · simp only [setTbl, if_neg hTe]
  · rw [pendDelta_step hs h1 h2 T]
    rcases step_teff hs with ⟨h, hc⟩ | ⟨-, e, -⟩ | ⟨-, -, -, -, -, h⟩ | ⟨e, -⟩ | ⟨-, rfl⟩
    · rw [total_eq, total_eq, hc h2 T, (h.2.2 T).1, (h.2.2 T).2]
    · exact absurd e h1
    · rw [h T (Nat.ne_of_lt hT)]
    · exact absurd e h3
    · rfl

theorem cnt_step {s : St K V} (hg : GI s.g) (hgd : GD s.g) (hld : ∀ u, LD p s.g (s.l u))
    (hcnt : ∀ T, T < s.g.ntables → CntT p s T) (hs : tstep p t s.g (s.l t) c = some (g', l')) :
    ∀ T, T < g'.ntables → CntT p { g := g', l := fun x => if x = t then l' else s.l x } T := by
  intro T hT
  by_cases hTo : T < s.g.ntables
  · exact cntT_step (hcnt T hTo) fun hst => bal_step hgd (hld t) hst hs hTo
  -- a generation allocated by this step is empty, and every thread works on an older one
  have hcur := hg.2
  rcases step_teff hs with ⟨⟨-, h, -⟩, -⟩ | ⟨-, -, -, -, h, -⟩ |
      ⟨len, -, -, hnt, hnew, -⟩ | ⟨-, -, h, -⟩ | ⟨-, rfl⟩
  case alloc =>
    obtain rfl : T = s.g.ntables := by omega
    intro _ N _
    rw [pendSum_zero fun u => pendDelta_of_tbl ?_]
    · show PTbl.total (g'.tables s.g.ntables) _ + 0 = _
      rw [hnew, total_emptyTbl]; rfl
    · dsimp only; split
      · have := (tblLe_step (hld t) hs).1; omega
      · have := (hld u).tblLe; omega
  case publish => exact absurd hT hTo
  all_goals exact absurd (h ▸ hT) hTo

structure DInv (p : Params K) (s : St K V) : Prop where
  gd : GD s.g
  ld : ∀ u, LD p s.g (s.l u)
  pair : ∀ r u, Pair (s.l r) (s.l u)
  cnt : ∀ T, T < s.g.ntables → CntT p s T

theorem dinv_init (hmin : 0 < p.minLen) : DInv (V := V) p (init p) := by
  refine ⟨⟨fun T => AMap.WF_nil, fun T => hmin⟩, fun u => ?_, fun r u => ?_, fun T hT => ?_⟩
  · exact .quiet rfl (Nat.le_refl _) (fun f hf => by cases hf)
  · intro c hc; cases hc
  · intro _ N _
    rw [pendSum_zero (fun u => rfl)]
    show PTbl.total (emptyTbl p.minLen) _ + 0 = _
    rw [total_emptyTbl]; rfl

theorem dinv_step {s s' : St K V} (hmin : 0 < p.minLen) (hi : Inv s) (hd : DInv p s) (hs : step p s t c = some s') :
    DInv p s' := by
  obtain ⟨g', l', heq, rfl⟩ := step_cases hs
  have hself := self_LD hmin hi.1 hd.gd (hd.ld t) heq
  refine ⟨hself.1, fun u => ?_, fun r u => ?_, cnt_step hi.1 hd.gd hd.ld hd.cnt heq⟩
  · dsimp only
    by_cases hu : u = t
    · rw [if_pos hu]; exact hself.2
    · rw [if_neg hu]
      exact other_LD hu hi.1 (hi.2 t) (hi.2 u) (hd.ld t) (hd.ld u) (hd.pair u t) heq
  · dsimp only
    by_cases hr : r = t <;> by_cases hu : u = t
    · rw [if_pos hr, if_pos hu]; exact pair_refl l'
    · rw [if_pos hr, if_neg hu]
      exact pair_self_r hu (hi.2 t) (hi.2 u) (hd.pair t u) heq
    · rw [if_neg hr, if_pos hu]
      exact pair_self_u hi.1 (hi.2 r) (hd.pair r t) heq
    · rw [if_neg hr, if_neg hu]; exact hd.pair r u

theorem dinv_reach (hmin : 0 < p.minLen) {s : St K V} (h : Reach p s) : DInv p s :=
  reach_induction (DInv p) (dinv_init hmin) (fun _ _ _ _ hr hd hs => dinv_step hmin (inv_reach hr) hd hs) h

set_option linter.unusedVariables false in
/-- no key is bound twice in any table generation (of an allocated one, says `hT`, which the proof does not need) -/
theorem data_wf (p : Params K) (hmin : 0 < p.minLen) (s : St K V) (h : Reach p s) (T : Nat) (hT : T < s.g.ntables) :
    AMap.WF (s.g.tables T).data :=
  (dinv_reach hmin h).gd.wf T

theorem len_pos (p : Params K) (hmin : 0 < p.minLen) (s : St K V) (h : Reach p s) (T : Nat) :
    0 < (s.g.tables T).len :=
  (dinv_reach hmin h).gd.lenPos T

/-- **copy progress**: while a grow/shrink copies, its source is the current table and its destination a younger, unpublished
generation that holds exactly the entries of the source buckets `< c` -/
theorem copy_progress (p : Params K) (hmin : 0 < p.minLen) (s : St K V) (h : Reach p s) (r : Tid) (c : Nat)
    (hc : copyC (s.l r) = some c) :
    (s.l r).rtbl = s.g.cur ∧ s.g.cur < (s.l r).newT ∧ (s.l r).newT < s.g.ntables ∧
    ∀ k, (s.g.tables (s.l r).newT).data.get k =
      if bucketOf p s.g (s.l r).rtbl k < c then (s.g.tables (s.l r).rtbl).data.get k else none :=
  have hd := (dinv_reach hmin h).ld r
  have hpcs := copyC_pcs hc
  ⟨hd.rcur hpcs.2.1, hd.newGt hpcs.1, ((inv_reach h).2 r).newTLt hpcs.1, hd.copy c hc⟩

theorem copy_complete (p : Params K) (hmin : 0 < p.minLen) (s : St K V) (h : Reach p s) (r : Tid)
    (hpc : (s.l r).pc = .rzPublish) (hh : (s.l r).hint ≠ .clear) :
    ∀ k, (s.g.tables (s.l r).newT).data.get k = absGet s.g k := by
  have hdi := dinv_reach hmin h
  have hd := hdi.ld r
  have hcp := hd.copy (s.l r).ci (by simp [copyC, hpc, hh])
  have hfull := hd.full hpc hh
  have hrc := hd.rcur (by rw [hpc]; rfl)
  intro k
  have hb : bucketOf p s.g (s.l r).rtbl k < (s.g.tables (s.l r).rtbl).len := Nat.mod_lt _ (hdi.gd.lenPos _)
  rw [hcp k, if_pos (by omega), hrc]; rfl

theorem publish_preserves_abs (p : Params K) (hmin : 0 < p.minLen) (s : St K V) (h : Reach p s) (t : Tid)
    (c : Choice K V) (g' : G K V) (l' : L K V) (hpc : (s.l t).pc = .rzPublish) (hh : (s.l t).hint ≠ .clear)
    (hs : tstep p t s.g (s.l t) c = some (g', l')) : ∀ k, absGet g' k = absGet s.g k := by
  obtain ⟨rfl, -⟩ := step_rzPublish hpc hs
  exact copy_complete p hmin s h t hpc hh

theorem abs_changes_only_at_commit_or_clear (p : Params K) (hmin : 0 < p.minLen) (s : St K V) (h : Reach p s) (t : Tid)
    (c : Choice K V) (g' : G K V) (l' : L K V) (hs : tstep p t s.g (s.l t) c = some (g', l'))
    (hne : ∃ k, absGet g' k ≠ absGet s.g k) :
    ((s.l t).pc = .dcCommit ∧ (s.l t).tbl = s.g.cur) ∨ ((s.l t).pc = .rzPublish ∧ (s.l t).hint = .clear) := by
  obtain ⟨k, hk⟩ := hne
  have hd := (dinv_reach hmin h).ld t
  rcases (step_frame hs).1 with hc | ⟨hpc, -⟩
  · rcases published_frame (inv_reach h).1 hd hs s.g.cur (Nat.le_refl _) with e | ⟨h1, h2, -⟩
    · exact absurd (by unfold absGet; rw [hc, e]) hk
    · exact Or.inl ⟨h1, h2⟩
  · by_cases hh : (s.l t).hint = .clear
    · exact Or.inr ⟨hpc, hh⟩
    · exact absurd (publish_preserves_abs p hmin s h t c g' l' hpc hh hs k) hk

theorem commit_changes_only_key (hpc : l.pc = .dcCommit) (hs : tstep p t g l c = some (g', l')) :
    ∀ k', some k' ≠ opKey l → absGet g' k' = absGet g k' := by
  obtain ⟨k0, nv, del, hk0, -⟩ := commit_shape hpc hs
  obtain ⟨hc, -, -, hoth, hkey, -⟩ := commit_frame hpc hs k0 hk0
  intro k' hk'
  have hne : k' ≠ k0 := by intro e; subst e; exact hk' hk0.symm
  unfold absGet; rw [hc]
  by_cases hT : g.cur = l.tbl
  · rw [hT]; exact hkey k' hne
  · rw [hoth _ hT]

theorem clear_publish_empties (p : Params K) (hmin : 0 < p.minLen) (s : St K V) (h : Reach p s) (t : Tid)
    (c : Choice K V) (g' : G K V) (l' : L K V) (hpc : (s.l t).pc = .rzPublish) (hh : (s.l t).hint = .clear)
    (hs : tstep p t s.g (s.l t) c = some (g', l')) : ∀ k, absGet g' k = none := by
  have hclr := ((dinv_reach hmin h).ld t).clr hpc hh
  obtain ⟨rfl, -⟩ := step_rzPublish hpc hs
  intro k; unfold absGet; dsimp only; rw [hclr]; rfl

theorem total_exact_no_pending (p : Params K) (hmin : 0 < p.minLen) (hst : ∀ n, 0 < p.stripes n) (s : St K V) (h : Reach p s)
    (hq : ∀ u, pendingOn (s.l u) s.g.cur = false) :
    (s.g.tables s.g.cur).total (p.stripes (s.g.tables s.g.cur).len) = ((s.g.tables s.g.cur).data.length : Int) := by
  have := (dinv_reach hmin h).cnt s.g.cur (inv_reach h).1.2 hst 0 (fun u _ => hq u)
  simpa [pendSum] using this

/-! ### the `Size()` call: `sumSize` reads the stripes one atomic load at a time -/

/-- pcs whose step only reads shared state (or touches nothing shared) -/
def roPc : Pc → Bool
  | .idle | .ldTable | .ldRead | .szTable | .szSum | .dcFast | .ret => true
  | _ => false

theorem ro_step_g (h : roPc l.pc = true) (hs : tstep p t g l c = some (g', l')) : g' = g := by
  cases hpc : l.pc <;> simp [roPc, hpc] at h <;> simp only [tstep, hpc] at hs <;> (repeat' split at hs) <;>
    simp only [Option.some.injEq, reduceCtorEq, Prod.mk.injEq] at hs <;> exact hs.1.symm

theorem ro_not_pending {T : Nat} (h : roPc l.pc = true) : pendingOn l T = false := by
  cases hpc : l.pc <;> simp [roPc, hpc] at h <;> simp [pendingOn, hpc]

/-- loop invariant of `sumSize` inside a `Size` call on table `T`, whose `n` counter stripes are `c0` -/
def SzL (T : Nat) (c0 : Nat → Int) (n : Nat) (l : L K V) : Prop :=
  l.pc = .szTable ∨ (l.pc = .szSum ∧ l.tbl = T ∧ l.si < n ∧ l.acc = psum c0 l.si) ∨
  (l.pc = .ret ∧ l.result = some (.size (psum c0 n)))

theorem szL_step {T : Nat} {c0 : Nat → Int} {n : Nat} (hn : 0 < n) (hT : g.cur = T) (hc : (g.tables T).ctr = c0)
    (hnn : p.stripes (g.tables T).len = n) (h : SzL T c0 n l) (hret : l.pc ≠ .ret)
    (hs : tstep p t g l c = some (g', l')) : g' = g ∧ SzL T c0 n l' := by
  rcases h with hpc | ⟨hpc, htb, hsi, hacc⟩ | ⟨hpc, -⟩
  · simp only [tstep, hpc, Option.some.injEq, Prod.mk.injEq] at hs
    obtain ⟨rfl, rfl⟩ := hs
    exact ⟨rfl, Or.inr (Or.inl ⟨rfl, hT, hn, rfl⟩)⟩
  · simp only [tstep, hpc, htb, hnn, hc] at hs
    split at hs <;> simp only [Option.some.injEq, Prod.mk.injEq] at hs <;> obtain ⟨rfl, rfl⟩ := hs
    · rename_i hlt
      exact ⟨rfl, Or.inr (Or.inl ⟨rfl, rfl, hlt, by rw [psum_succ, ← hacc]⟩)⟩
    · rename_i hlt
      have : l.si + 1 = n := by omega
      exact ⟨rfl, Or.inr (Or.inr ⟨rfl, by rw [← this, psum_succ, ← hacc]⟩)⟩
  · exact absurd hpc hret

end Proofs.ProtoData

/-! ## writers past their checks, retired generations

The state-level half of Level 2 of `ProtoLin` (see its head comment), in that namespace. -/
namespace Proofs.ProtoLin
open Spec Model.Proto Proofs.ProtoLocks Proofs.ProtoData

variable {K V : Type} [DecidableEq K]
variable {p : Params K} {t : Tid} {g g' : G K V} {l l' : L K V} {c : Choice K V}


/-- a writer past both re-checks (`resizing`, `cur`) that has not committed yet -/
def past2 : Pc → Bool
  | .dcScan | .dcSum | .dcFn | .dcCommit => true
  | _ => false

theorem past2_pastChk {pc : Pc} (h : past2 pc = true) : pastChk pc = true := by
  revert h; cases pc <;> simp [past2, pastChk]

/-- all root buckets have been copied (`LD.full`), a writer past its checks holds a bucket that has not been copied (`Pair`),
and its bucket index is below the length of the table (`LD.bkt`) -/
theorem no_writer_past_checks_at_resize_publish (hmin : 0 < p.minLen) {s : St K V} (h : Reach p s)
    {r u : Tid} (hpc : (s.l r).pc = .rzPublish) (hh : (s.l r).hint ≠ .clear)
    (hu : pastChk (s.l u).pc = true) : (s.l u).tbl ≠ s.g.cur := by
  have hd := dinv_reach hmin h
  rw [← (hd.ld r).rcur (by rw [hpc]; rfl)]
  intro he
  have hcc : copyC (s.l r) = some (s.l r).ci := by simp [copyC, hpc, hh]
  have h1 := hd.pair r u _ hcc hu he
  have h2 := (hd.ld r).full hpc hh
  obtain ⟨k, f, lie, co, hop⟩ := (wf_reach h u).dc_op (pastChk_inDc hu)
  have h3 := (hd.ld u).bkt (writer_pcs.2 hu) k (opKey_of_dc hop)
  have h4 : bucketOf p s.g (s.l u).tbl k < (s.g.tables (s.l u).tbl).len := Nat.mod_lt _ (hd.gd.lenPos _)
  rw [he] at h3 h4
  omega

theorem cur_step (hs : tstep p t g l c = some (g', l')) : g'.cur = g.cur ∨ (l.pc = .rzPublish ∧ g'.cur = l.newT) :=
  (step_frame hs).1.imp_right fun h => ⟨h.1, by rw [h.2]⟩

theorem past2_entry (hs : tstep p t g l c = some (g', l')) (h : past2 l'.pc = true) :
    l'.tbl = l.tbl ∧ l'.op = l.op ∧ g' = g ∧
      ((past2 l.pc = true ∧ l.pc ≠ .dcCommit) ∨ (l.pc = .dcChkTable ∧ g.cur = l.tbl)) := by
  obtain ⟨e1, e2, -, e4, ⟨-, -, e⟩ | h2 | ⟨h2, h3, h4⟩⟩ := pastChk_entry hs (past2_pastChk h)
  · rw [e] at h; cases h
  · exact ⟨e1, e2, e4, .inr h2⟩
  · exact ⟨e1, e2, e4, .inl ⟨by revert h2 h3; cases l.pc <;> simp [pastChk, past2], h4⟩⟩

theorem retire_step_is_clear (hmin : 0 < p.minLen) {s : St K V} (h : Reach p s) {t u : Tid}
    {c : Choice K V} {g' : G K V} {l' : L K V} (hs : tstep p t s.g (s.l t) c = some (g', l'))
    (hu : pastChk (s.l u).pc = true) (htbl : (s.l u).tbl = s.g.cur) (hne : g'.cur ≠ s.g.cur) :
    (s.l t).pc = .rzPublish ∧ (s.l t).hint = .clear := by
  rcases cur_step hs with e | ⟨hpc, -⟩
  · exact absurd e hne
  · exact ⟨hpc, Classical.byContradiction fun hh => no_writer_past_checks_at_resize_publish hmin h hpc hh hu htbl⟩

theorem data_key_step (hmin : 0 < p.minLen) {s : St K V} (h : Reach p s) {t : Tid}
    {c : Choice K V} {g' : G K V} {l' : L K V} (hs : tstep p t s.g (s.l t) c = some (g', l'))
    {T : Nat} (hT : T ≤ s.g.cur) (k : K) :
    (g'.tables T).data.get k = (s.g.tables T).data.get k ∨
      ((s.l t).pc = .dcCommit ∧ (s.l t).tbl = T ∧ opKey (s.l t) = some k ∧ g'.cur = s.g.cur) := by
  rcases published_frame (inv_reach h).1 ((dinv_reach hmin h).ld t) hs T hT with
    e | ⟨h1, h2, h3, k0, hk0, hk⟩
  · exact Or.inl (by rw [e])
  · by_cases hkk : k = k0
    · exact Or.inr ⟨h1, h2, hkk ▸ hk0, h3⟩
    · exact Or.inl (hk k hkk)

/-- distinct root buckets, hence distinct keys: the writers helped by one `Clear` commute -/
theorem helped_keys_distinct (p : Params K) (hmin : 0 < p.minLen) (s : St K V) (h : Reach p s) (t u : Tid)
    (hne : t ≠ u) (ht : pastChk (s.l t).pc = true) (hu : pastChk (s.l u).pc = true)
    (htbl : (s.l t).tbl = (s.l u).tbl) :
    (s.l t).bi ≠ (s.l u).bi ∧ ∀ k1 k2, opKey (s.l t) = some k1 → opKey (s.l u) = some k2 → k1 ≠ k2 := by
  have hd := dinv_reach hmin h
  have hbi : (s.l t).bi ≠ (s.l u).bi := by
    intro e
    refine hne (mutex p s h t u (s.l t).tbl (s.l t).bi (holds_pastChk ht) ?_)
    rw [holds_pastChk hu, htbl, e]
  refine ⟨hbi, fun k1 k2 h1 h2 e => hbi ?_⟩
  subst e
  rw [(hd.ld t).bkt (writer_pcs.2 ht) k1 h1, (hd.ld u).bkt (writer_pcs.2 hu) k1 h2, htbl]

theorem locked_key_stable (hmin : 0 < p.minLen) {s : St K V} (h : Reach p s) {t u : Tid}
    (hne : t ≠ u) {c : Choice K V} {g' : G K V} {l' : L K V} (hs : tstep p t s.g (s.l t) c = some (g', l'))
    (hu : pastChk (s.l u).pc = true) {k : K} (hk : opKey (s.l u) = some k) :
    (g'.tables (s.l u).tbl).data.get k = (s.g.tables (s.l u).tbl).data.get k := by
  rcases data_key_step hmin h hs ((dinv_reach hmin h).ld u).tblLe k with e | ⟨h1, h2, h3, -⟩
  · exact e
  · exact absurd rfl ((helped_keys_distinct p hmin s h t u hne (by rw [h1]; rfl) hu h2).2 k k h3 hk)

theorem cur_le_step (hmin : 0 < p.minLen) {s : St K V} (h : Reach p s) {t : Tid}
    {c : Choice K V} {g' : G K V} {l' : L K V} (hs : tstep p t s.g (s.l t) c = some (g', l')) :
    s.g.cur ≤ g'.cur := by
  rcases cur_step hs with e | ⟨hpc, e⟩
  · omega
  · have := ((dinv_reach hmin h).ld t).newGt (by rw [hpc]; rfl); omega

/-- **a straggler** is a writer past its checks on a retired generation.  One after a step was one before it, unless this very
step, the publish of a `Clear`, retires its generation; the step is not its commit and leaves the binding of its key alone -/
theorem straggler_step (hmin : 0 < p.minLen) {s s' : St K V} {x : Tid} {c : Choice K V}
    (hreach : Reach p s) (hs : step p s x c = some s') {u : Tid}
    (hp : past2 (s'.l u).pc = true) (hne : (s'.l u).tbl ≠ s'.g.cur) :
    (s'.l u).tbl = (s.l u).tbl ∧ (s'.l u).op = (s.l u).op ∧ past2 (s.l u).pc = true ∧
    (x = u → (s.l u).pc ≠ .dcCommit) ∧
    (∀ k, opKey (s.l u) = some k →
      (s'.g.tables (s.l u).tbl).data.get k = (s.g.tables (s.l u).tbl).data.get k) ∧
    ((s.l u).tbl = s.g.cur → (s.l x).pc = .rzPublish ∧ (s.l x).hint = .clear) := by
  obtain ⟨hts, hoth⟩ := step_def hs
  by_cases hux : u = x
  · subst hux
    obtain ⟨e1, e2, e4, ⟨hp2, hnc⟩ | ⟨-, hcur⟩⟩ := past2_entry hts hp
    · rw [e1, e4] at hne
      exact ⟨e1, e2, hp2, fun _ => hnc, fun _ _ => by rw [e4], fun h => absurd h hne⟩
    · exact absurd (by rw [e1, e4, hcur]) hne
  · rw [hoth u hux] at hp hne ⊢
    refine ⟨rfl, rfl, hp, fun e => absurd e.symm hux,
      fun k hk => locked_key_stable hmin hreach (Ne.symm hux) hts (past2_pastChk hp) hk, fun hTc => ?_⟩
    exact retire_step_is_clear hmin hreach hts (past2_pastChk hp) hTc fun e => hne (hTc.trans e.symm)

end Proofs.ProtoLin
