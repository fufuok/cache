import CacheVerif.Proofs.DeepLoad
/-!
# The printed body of `Map.Load` (string keys) computes the top-hash-filtered search, which is M3's key search

Same structure as `Proofs/DeepLoad.lean`, for `Gen.Deep.T_Map_Load` (printed from `internal/xsync/map.go` on every run):
the three-clause `for` over the three slots with `continue` on a top-hash mismatch, the labelled three-read snapshot
(`vp`, `kp`, `vp` again; sequentially the second read of the value pointer returns the same cell, so the `goto` is never
taken), the walk along `next`.
-/
namespace Proofs.DeepLoadM
open Deep.T Model.Words Model.Table Proofs.SlotScheme Proofs.Words Proofs.DeepT Proofs.DeepLoad

variable {K V : Type} [DecidableEq K]

/-- the `for { … }` over the chain: statement 4 of the body, after `table`, `hash`, `bidx`, `b` -/
def outerLoopM : Stmt := nth Gen.Deep.T_Map_Load.body 4
def obodyM : Stmt := unblock (loopBody outerLoopM)
/-- `topHashes := atomic.LoadUint64(&b.topHashMutex)` -/
def sAM : Stmt := nth obodyM 0
/-- `for i := 0; i < entriesPerMapBucket; i++ { … }` -/
def forS : Stmt := nth obodyM 1
/-- what follows it: `bptr := atomic.LoadPointer(&b.next)`; `if bptr == nil { return }`; `b = (*bucketPadded)(bptr)` -/
def sCM : Stmt := restFrom obodyM 2
def resNamesM : List String := Gen.Deep.T_Map_Load.results.map (·.1)

theorem for_shape : forS = .for3 (forInit forS) (forCond forS) (forPost forS) (forBody forS) := rfl
theorem bodyM_shape : loopBody outerLoopM = .block (.seq sAM (.seq forS sCM)) := rfl

def envOutM (key : K) (ci j : Nat) (bidx hash : BitVec 64) : Env K V :=
  [("b", .mbucketRef ci j), ("bidx", .w64 bidx), ("hash", .w64 hash), ("table", .mtablePtr), ("key", .key key),
   ("value", .zeroV), ("ok", .bool false)]

def envInM (key : K) (ci j : Nat) (th bidx hash : BitVec 64) : Env K V :=
  ("topHashes", .w64 th) :: envOutM key ci j bidx hash

/-- `f + 1`: the labelled statement inside is entered once (`labelN` unfolds one step; the `goto` is not taken) -/
theorem for_step (f : Nat) (h : Heap K V) (key : K) (ci j : Nat) (b : BucketM K V)
    (hb : mbucketAt h ci j = some b) (bidx hash : BitVec 64) (n : Nat) (hn : n < 3)
    (e : Option (K × V)) (he : b.slots[n]? = some e) :
    iter3 (fun env => eval h env (forCond forS)) (fun env => exec (f + 1) h resNamesM (forBody forS) env)
        (fun env => exec (f + 1) h resNamesM (forPost forS) env)
        (("i", .int n) :: envInM key ci j b.word bidx hash) =
      (match (if Gen.topHashMatch hash b.word n then testSlot key b.slots n else none) with
       | some v => some (.ret [.val v, .bool true])
       | none => some (.normal (("i", .int ((n : Int) + 1)) :: envInM key ci j b.word bidx hash))) := by
  have hlt : (n : Int) < 3 := by omega
  have hge : 0 ≤ (n : Int) := by omega
  cases htm : Gen.topHashMatch hash b.word n
  · simp [forS, obodyM, outerLoopM, Gen.Deep.T_Map_Load, envInM, envOutM, Gen.entriesPerMapBucket, hlt, hge, htm]
  · rw [testSlot_eq, he]
    rcases e with _ | ⟨k, v⟩
    · simp [forS, obodyM, outerLoopM, Gen.Deep.T_Map_Load, envInM, envOutM, Gen.entriesPerMapBucket, hlt, hge, htm, labelN,
      hb, he, resNamesM]
    · by_cases hk : k = key
      · subst hk
        simp [forS, obodyM, outerLoopM, Gen.Deep.T_Map_Load, envInM, envOutM, Gen.entriesPerMapBucket, hlt, hge, htm,
          labelN, hb, he, resNamesM]
      · simp [forS, obodyM, outerLoopM, Gen.Deep.T_Map_Load, envInM, envOutM, Gen.entriesPerMapBucket, hlt, hge, htm,
          labelN, hb, he, resNamesM, hk, Ne.symm hk]

theorem for_exit (fuel : Nat) (h : Heap K V) (env : Env K V) :
    iter3 (fun env => eval h env (forCond forS)) (fun env => exec fuel h resNamesM (forBody forS) env)
        (fun env => exec fuel h resNamesM (forPost forS) env) (("i", .int 3) :: env) =
      some (.brk (("i", .int 3) :: env)) := by
  simp [forS, obodyM, outerLoopM, Gen.Deep.T_Map_Load, Gen.entriesPerMapBucket]

/-- **the `for i` loop** over the three slots of one bucket is `searchBucketM` -/
theorem for_loop (fuel : Nat) (hf : 4 ≤ fuel) (h : Heap K V) (key : K) (ci j : Nat) (b : BucketM K V)
    (hb : mbucketAt h ci j = some b) (hlen : b.slots.length = 3) (bidx hash : BitVec 64) :
    exec fuel h resNamesM forS (envInM key ci j b.word bidx hash) =
      some (match searchBucketM key hash b with
        | some v => .ret [.val v, .bool true]
        | none => .normal (envInM key ci j b.word bidx hash)) := by
  obtain ⟨f, rfl⟩ : ∃ f, fuel = f + 1 := ⟨fuel - 1, by omega⟩
  have hinit : exec (f + 1) h resNamesM (forInit forS) (envInM key ci j b.word bidx hash) =
      some (.normal (("i", .int 0) :: envInM key ci j b.word bidx hash)) := by
    simp [forS, obodyM, outerLoopM, Gen.Deep.T_Map_Load]
  rw [for_shape]
  simp only [exec, hinit]
  refine (congrArg (leave _) (count_loop _ (fun n => ("i", .int n) :: envInM key ci j b.word bidx hash) 3
    (testSlot key b.slots) (Gen.topHashMatch hash b.word)
    (fun n hn => for_step f h key ci j b hb bidx hash n hn _ (List.getElem?_eq_getElem (by omega)))
    (for_exit (f + 1) h _) 3 0 (f + 1) rfl (by omega))).trans ?_
  rw [← searchBucketM_marked]
  cases searchBucketM key hash b <;> simp [envInM, envOutM]

/-! ### one iteration of the outer loop, the outer loop, the whole call -/

theorem outerM_step (fuel : Nat) (hf : 4 ≤ fuel) (h : Heap K V) (key : K) (ci j : Nat) (c : List (BucketM K V))
    (hc : h.mchains[ci]? = some c) (b : BucketM K V) (hb : c[j]? = some b) (hlen : b.slots.length = 3)
    (bidx hash : BitVec 64) :
    exec fuel h resNamesM (loopBody outerLoopM) (envOutM key ci j bidx hash) =
      (match searchBucketM key hash b with
       | some v => some (.ret [.val v, .bool true])
       | none =>
         if j + 1 < c.length then some (.normal (envOutM key ci (j + 1) bidx hash))
         else some (.ret [.zeroV, .bool false])) := by
  have hb' : mbucketAt h ci j = some b := by simp [mbucketAt, hc, hb]
  have hjlt : j < c.length := lt_of_getElem? hb
  have hA : exec fuel h resNamesM sAM (envOutM key ci j bidx hash) =
      some (.normal (envInM key ci j b.word bidx hash)) := by
    simp [sAM, obodyM, outerLoopM, Gen.Deep.T_Map_Load, envOutM, envInM, hb']
  have hC : exec fuel h resNamesM sCM (envInM key ci j b.word bidx hash) =
      (if j + 1 < c.length then
        some (.normal (("bptr", .mbucketRef ci (j + 1)) :: ("topHashes", .w64 b.word) :: envOutM key ci (j + 1) bidx hash))
       else some (.ret [.zeroV, .bool false])) := by
    by_cases hj : j + 1 < c.length <;> simp [sCM, obodyM, outerLoopM, Gen.Deep.T_Map_Load, envOutM, envInM, hc, hj, hjlt, resNamesM]
  rw [bodyM_shape]
  simp only [exec, hA, for_loop fuel hf h key ci j b hb' hlen bidx hash]
  cases hs : searchBucketM key hash b with
  | some v => simp
  | none =>
    simp only [hC]
    by_cases hj : j + 1 < c.length <;> simp [hj, envOutM]

/-- the hash of a key and the index of its root bucket, as `Map.Load` computes them.  `mhashOf` is `DeepLoad.hashOf` under
the name the `Map` statements use; `Map` masks and matches the whole hash where `MapOf` splits it into `h1` / `h2` -/
def mhashOf (h : Heap K V) (key : K) : BitVec 64 := h.hasher key h.seed
def mbidxOf (h : Heap K V) (key : K) : BitVec 64 :=
  BitVec.ofInt 64 ((h.mchains.length : Int) - 1) &&& mhashOf h key

theorem bodyM_eq : Gen.Deep.T_Map_Load.body =
    .seq (nth Gen.Deep.T_Map_Load.body 0) (.seq (nth Gen.Deep.T_Map_Load.body 1)
      (.seq (nth Gen.Deep.T_Map_Load.body 2) (.seq (nth Gen.Deep.T_Map_Load.body 3)
        (.forever (loopBody outerLoopM))))) := rfl

theorem prologueM (fuel : Nat) (h : Heap K V) (key : K) (hlt : (mbidxOf h key).toNat < h.mchains.length) :
    exec fuel h resNamesM Gen.Deep.T_Map_Load.body [("key", .key key), ("value", .zeroV), ("ok", .bool false)] =
      exec fuel h resNamesM (.forever (loopBody outerLoopM))
        (envOutM key (mbidxOf h key).toNat 0 (mbidxOf h key) (mhashOf h key)) := by
  have e1 : h.hasher key h.seed = mhashOf h key := rfl
  have e2 : BitVec.ofInt 64 ((h.mchains.length : Int) - 1) &&& mhashOf h key = mbidxOf h key := rfl
  rw [bodyM_eq]
  simp [Gen.Deep.T_Map_Load, e1, e2, hlt, envOutM]

/-- **the printed `Map.Load` computes the top-hash-filtered search** of the chain of the key's root bucket -/
theorem mload_eq_search (fuel : Nat) (hf : 4 ≤ fuel) (h : Heap K V) (key : K) (c : List (BucketM K V))
    (hc : h.mchains[(mbidxOf h key).toNat]? = some c) (hne : c ≠ []) (hfuel : c.length ≤ fuel)
    (hlen : ∀ b ∈ c, b.slots.length = 3) :
    call fuel h Gen.Deep.T_Map_Load [.key key] =
      some (match searchChainM key (mhashOf h key) c with
        | some v => [.val v, .bool true]
        | none => [.zeroV, .bool false]) := by
  rw [searchChainM_with]
  exact call_walk fuel h _ key resNamesM _ rfl _
    (fun j => envOutM key (mbidxOf h key).toNat j (mbidxOf h key) (mhashOf h key))
    (prologueM fuel h key (lt_of_getElem? hc)) c _
    (fun j hj => outerM_step fuel hf h key _ j c hc c[j] (List.getElem?_eq_getElem hj) (hlen _ (List.getElem_mem hj)) _ _)
    hne hfuel

/-- … which is the key search of M3 when the stored top hashes match their keys (`RepM`) -/
theorem mload_eq_lookup (fuel : Nat) (hf : 4 ≤ fuel) (h : Heap K V) (key : K) (c : List (BucketM K V))
    (hc : h.mchains[(mbidxOf h key).toNat]? = some c) (hne : c ≠ []) (hfuel : c.length ≤ fuel)
    (hrep : ∀ b ∈ c, RepM (mhashOf h) b) :
    call fuel h Gen.Deep.T_Map_Load [.key key] =
      some (match lookup key (flatM c) with
        | some v => [.val v, .bool true]
        | none => [.zeroV, .bool false]) := by
  rw [mload_eq_search fuel hf h key c hc hne hfuel (fun b hb => (hrep b hb).1), searchChainM_eq (mhashOf h) key c hrep]

/-- **the printed `Map.Load` is the `load` step of the sequential table model M3** (Map variant) -/
theorem mload_is_model_load [Inhabited V] (fuel : Nat) (hf : 4 ≤ fuel) (h : Heap K V) (m : St K V)
    (env : Model.Table.Env K) (key : K) (p : Nat) (hp : p < 64) (hlen : h.mchains.length = 2 ^ p)
    (htbl : m.tbl.chains = h.mchains.map flatM) (hseed : m.tbl.seed = h.seed) (hhash : env.hash = h.hasher)
    (hne : ∀ c ∈ h.mchains, c ≠ []) (hfuel : ∀ c ∈ h.mchains, c.length ≤ fuel)
    (hrep : ∀ c ∈ h.mchains, ∀ b ∈ c, RepM (mhashOf h) b) :
    call fuel h Gen.Deep.T_Map_Load [.key key] =
      some (match (step mapVariant env m (.load key)).2.out with
        | .val v true => [.val v, .bool true]
        | _ => [.zeroV, .bool false]) := by
  have hb : (mbidxOf h key).toNat = (h.hasher key h.seed).toNat % 2 ^ p := by
    unfold mbidxOf mhashOf
    rw [hlen]
    exact mask_mod p hp _
  have hlt : (mbidxOf h key).toNat < h.mchains.length := by
    rw [hb, hlen]; exact Nat.mod_lt _ (Nat.two_pow_pos p)
  have hmem := List.getElem_mem hlt
  rw [mload_eq_lookup fuel hf h key _ (List.getElem?_eq_getElem hlt) (hne _ hmem) (hfuel _ hmem) (hrep _ hmem)]
  simp only [step, chain_of_heap mapVariant env m key h.mchains flatM htbl _ hlt (by rw [hseed, hhash, hlen, hb]; rfl)]
  cases lookup key (flatM h.mchains[(mbidxOf h key).toNat]) <;> rfl

end Proofs.DeepLoadM
