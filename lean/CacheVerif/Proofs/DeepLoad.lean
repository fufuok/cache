import CacheVerif.Generated.TableLoad
import CacheVerif.Proofs.DeepT
/-!
# The printed body of `MapOf.Load` computes the word-filtered search, which is M3's key search

`Gen.Deep.T_MapOf_Load` is printed from `internal/xsync/mapof.go` on every run; the theorems are about the interpreter
`Deep.T.call` on that syntax, for every heap (any number of chains of any length, any contents), every key and every
sufficient loop budget.  Last, what `Load` returns on a heap in which the chain of a root bucket, or one bucket of it, was
replaced by a representative one (`load_set_chain`, `load_set_bucket`): the read-your-write theorems of C11 rest on these.
-/
namespace Proofs.DeepLoad
open Deep.T Model.Words Model.Table Proofs.SlotScheme Proofs.Words Proofs.LeafBits Proofs.DeepT

variable {K V : Type} [DecidableEq K]

/-- the `for { … }` over the chain: statement 6 of the body, after `table`, `hash`, `h1`, `h2w`, `bidx`, `b` -/
def outerLoop : Stmt := nth Gen.Deep.T_MapOf_Load.body 6
/-- the `for markedw != 0 { … }` over the candidate slots of one bucket -/
def innerLoop : Stmt := nth (unblock (loopBody outerLoop)) 2

def resNames : List String := Gen.Deep.T_MapOf_Load.results.map (·.1)

/-- the environment at the head of an iteration of the outer loop -/
def envOut (key : K) (ci j : Nat) (h2w bidx h1 hash : BitVec 64) : Env K V :=
  [("b", .bucketRef ci j), ("bidx", .w64 bidx), ("h2w", .w64 h2w), ("h1", .w64 h1),
   ("hash", .w64 hash), ("table", .tablePtr), ("key", .key key), ("value", .zeroV), ("ok", .bool false)]

def envIn (key : K) (ci j : Nat) (m h2w bidx h1 hash : BitVec 64) : Env K V :=
  ("metaw", .w64 m) :: envOut key ci j h2w bidx h1 hash

theorem inner_step (fuel : Nat) (h : Heap K V) (key : K) (ci j : Nat) (b : BucketOf K V)
    (hb : bucketAt h ci j = some b) (m h2w bidx h1 hash : BitVec 64) (w : BitVec 64) (hz : w ≠ 0#64)
    (e : Option (K × V)) (he : b.entries[Gen.firstMarkedByteIndex w]? = some e) :
    iter (fun env => eval h env (loopCond innerLoop)) (fun env => exec fuel h resNames (loopBody innerLoop) env)
        (("markedw", .w64 w) :: envIn key ci j m h2w bidx h1 hash) =
      (match e with
       | some (k, v) =>
         if k = key then some (.ret [.val v, .bool true])
         else some (.normal (("markedw", .w64 (w &&& (w - 1#64))) :: envIn key ci j m h2w bidx h1 hash))
       | none => some (.normal (("markedw", .w64 (w &&& (w - 1#64))) :: envIn key ci j m h2w bidx h1 hash))) := by
  have hz' : (w != 0#64) = true := by simp [hz]
  rcases e with _ | ⟨k, v⟩
  · simp [innerLoop, outerLoop, Gen.Deep.T_MapOf_Load, envIn, envOut, hb, he, resNames, hz']
  · by_cases hk : k = key <;> simp [innerLoop, outerLoop, Gen.Deep.T_MapOf_Load, envIn, envOut, hb, he, resNames, hz', hk]

/-- **the inner loop** of the printed `Load` is `scanMarked` -/
theorem inner_loop (fuel : Nat) (h : Heap K V) (key : K) (ci j : Nat) (b : BucketOf K V)
    (hb : bucketAt h ci j = some b) (hlen : b.entries.length = 5) (m h2w bidx h1 hash : BitVec 64) :
    ∀ (n : Nat) (w : BitVec 64), Markers 5 w →
      loopN (iter (fun env => eval h env (loopCond innerLoop))
          (fun env => exec fuel h resNames (loopBody innerLoop) env)) n
        (("markedw", .w64 w) :: envIn key ci j m h2w bidx h1 hash) =
      (scanMarked (testSlot key b.entries) n w).map fun r =>
        match r with
        | some v => .ret [.val v, .bool true]
        | none => .normal (("markedw", .w64 0#64) :: envIn key ci j m h2w bidx h1 hash) := by
  intro n
  induction n with
  | zero => intro w _; simp [loopN, scanMarked]
  | succ n ih =>
    intro w hw
    by_cases hz : w = 0#64
    · subst hz
      simp [loopN, scanMarked, innerLoop, outerLoop, Gen.Deep.T_MapOf_Load, envIn, envOut]
    · have hlt := firstMarkedByteIndex_lt w 5 (fun j hj => (hw j hj).2) hz
      have ih' := ih (w &&& (w - 1#64)) (hw.and _)
      obtain ⟨e, he⟩ : ∃ e, b.entries[Gen.firstMarkedByteIndex w]? = some e := by
        rw [List.getElem?_eq_getElem (by omega)]; exact ⟨_, rfl⟩
      rw [loopN, scanMarked, testSlot_eq, he]
      simp only [hz, if_false]
      rw [inner_step fuel h key ci j b hb m h2w bidx h1 hash w hz e he]
      rcases e with _ | ⟨k, v⟩
      · simpa using ih'
      · by_cases hk : k = key
        · simp [hk]
        · simpa [hk] using ih'

/-! ### one iteration of the outer loop -/

def obody : Stmt := unblock (loopBody outerLoop)
/-- `metaw := atomic.LoadUint64(&b.meta)` -/
def sA : Stmt := nth obody 0
/-- `markedw := markZeroBytes(metaw^h2w) & metaMask` -/
def sB : Stmt := nth obody 1
/-- what follows the inner loop: `bptr := atomic.LoadPointer(&b.next)`; `if bptr == nil { return }`;
`b = (*bucketOfPadded)(bptr)` -/
def sC : Stmt := restFrom obody 3

theorem body_shape : loopBody outerLoop = .block (.seq sA (.seq sB (.seq innerLoop sC))) := rfl
theorem inner_shape : innerLoop = .while (loopCond innerLoop) (loopBody innerLoop) := rfl

theorem outer_step (fuel : Nat) (hf : 8 ≤ fuel) (h : Heap K V) (key : K) (ci j : Nat) (c : List (BucketOf K V))
    (hc : h.chains[ci]? = some c) (b : BucketOf K V) (hb : c[j]? = some b) (hlen : b.entries.length = 5)
    (h2w bidx h1 hash : BitVec 64) :
    exec fuel h resNames (loopBody outerLoop) (envOut key ci j h2w bidx h1 hash) =
      (match searchBucket key h2w b with
       | some v => some (.ret [.val v, .bool true])
       | none =>
         if j + 1 < c.length then some (.normal (envOut key ci (j + 1) h2w bidx h1 hash))
         else some (.ret [.zeroV, .bool false])) := by
  have hb' : bucketAt h ci j = some b := by simp [bucketAt, hc, hb]
  have hjlt : j < c.length := lt_of_getElem? hb
  have hA : exec fuel h resNames sA (envOut key ci j h2w bidx h1 hash) =
      some (.normal (envIn key ci j b.metaw h2w bidx h1 hash)) := by
    simp [sA, obody, outerLoop, Gen.Deep.T_MapOf_Load, envOut, envIn, hb']
  have hB : exec fuel h resNames sB (envIn key ci j b.metaw h2w bidx h1 hash) =
      some (.normal (("markedw", .w64 (candidates h2w b.metaw)) :: envIn key ci j b.metaw h2w bidx h1 hash)) := by
    simp [sB, obody, outerLoop, Gen.Deep.T_MapOf_Load, envOut, envIn, candidates]
  have hI : exec fuel h resNames innerLoop
      (("markedw", .w64 (candidates h2w b.metaw)) :: envIn key ci j b.metaw h2w bidx h1 hash) =
      some (match searchBucket key h2w b with
        | some v => .ret [.val v, .bool true]
        | none => .normal (("markedw", .w64 0#64) :: envIn key ci j b.metaw h2w bidx h1 hash)) := by
    rw [inner_shape]
    simp only [exec]
    rw [inner_loop fuel h key ci j b hb' hlen b.metaw h2w bidx h1 hash fuel _ (candidates_bits h2w b.metaw),
      scan_candidates key h2w b fuel hf]
    rfl
  have hC : exec fuel h resNames sC (("markedw", .w64 0#64) :: envIn key ci j b.metaw h2w bidx h1 hash) =
      (if j + 1 < c.length then
        some (.normal (("bptr", .bucketRef ci (j + 1)) :: ("markedw", .w64 0#64) :: ("metaw", .w64 b.metaw) ::
          envOut key ci (j + 1) h2w bidx h1 hash))
       else some (.ret [.zeroV, .bool false])) := by
    by_cases hj : j + 1 < c.length <;> simp [sC, obody, outerLoop, Gen.Deep.T_MapOf_Load, envOut, envIn, hc, hj, hjlt, resNames]
  rw [body_shape]
  simp only [exec, hA, hB, hI]
  cases hs : searchBucket key h2w b with
  | some v => simp
  | none =>
    simp only [hC]
    by_cases hj : j + 1 < c.length <;> simp [hj, envOut]

/-! ### the outer loop, and the whole call -/

/-- the hash of a key, the broadcast `h2` byte, the index of its root bucket, as `Load` computes them -/
def hashOf (h : Heap K V) (key : K) : BitVec 64 := h.hasher key h.seed
def h2wOf (h : Heap K V) (key : K) : BitVec 64 := Gen.broadcast (Gen.h2 (hashOf h key))
def bidxOf (h : Heap K V) (key : K) : BitVec 64 :=
  BitVec.ofInt 64 ((h.chains.length : Int) - 1) &&& Gen.h1 (hashOf h key)

theorem body_eq : Gen.Deep.T_MapOf_Load.body =
    .seq (nth Gen.Deep.T_MapOf_Load.body 0) (.seq (nth Gen.Deep.T_MapOf_Load.body 1)
      (.seq (nth Gen.Deep.T_MapOf_Load.body 2) (.seq (nth Gen.Deep.T_MapOf_Load.body 3)
        (.seq (nth Gen.Deep.T_MapOf_Load.body 4) (.seq (nth Gen.Deep.T_MapOf_Load.body 5)
          (.forever (loopBody outerLoop))))))) := rfl

theorem prologue (fuel : Nat) (h : Heap K V) (key : K) (hlt : (bidxOf h key).toNat < h.chains.length) :
    exec fuel h resNames Gen.Deep.T_MapOf_Load.body [("key", .key key), ("value", .zeroV), ("ok", .bool false)] =
      exec fuel h resNames (.forever (loopBody outerLoop))
        (envOut key (bidxOf h key).toNat 0 (h2wOf h key) (bidxOf h key) (Gen.h1 (hashOf h key)) (hashOf h key)) := by
  -- `simp` runs the statements before the loop in one go; the three equations fold the values it computes back into their
  -- names before it reaches the bounds check on `bidx`
  have e1 : h.hasher key h.seed = hashOf h key := rfl
  have e2 : Gen.broadcast (Gen.h2 (hashOf h key)) = h2wOf h key := rfl
  have e3 : BitVec.ofInt 64 ((h.chains.length : Int) - 1) &&& Gen.h1 (hashOf h key) = bidxOf h key := rfl
  rw [body_eq]
  simp [Gen.Deep.T_MapOf_Load, e1, e2, e3, hlt, envOut]

/-- **the printed `MapOf.Load` computes the word-filtered search** of the chain of the key's root bucket -/
theorem load_eq_search (fuel : Nat) (hf : 8 ≤ fuel) (h : Heap K V) (key : K) (c : List (BucketOf K V))
    (hc : h.chains[(bidxOf h key).toNat]? = some c) (hne : c ≠ []) (hfuel : c.length ≤ fuel)
    (hlen : ∀ b ∈ c, b.entries.length = 5) :
    call fuel h Gen.Deep.T_MapOf_Load [.key key] =
      some (match searchChain key (h2wOf h key) c with
        | some v => [.val v, .bool true]
        | none => [.zeroV, .bool false]) := by
  rw [searchChain_with]
  exact call_walk fuel h _ key resNames _ rfl _
    (fun j => envOut key (bidxOf h key).toNat j (h2wOf h key) (bidxOf h key) (Gen.h1 (hashOf h key)) (hashOf h key))
    (prologue fuel h key (lt_of_getElem? hc)) c _
    (fun j hj => outer_step fuel hf h key _ j c hc c[j] (List.getElem?_eq_getElem hj) (hlen _ (List.getElem_mem hj)) _ _ _ _)
    hne hfuel

/-- the hash byte of a key in the table of the heap -/
def hkOf (h : Heap K V) (k : K) : BitVec 8 := Gen.h2 (h.hasher k h.seed)

/-- **… which is the key search of M3** when the `meta` words of the chain say what their entries demand (`RepB`) -/
theorem load_eq_lookup (fuel : Nat) (hf : 8 ≤ fuel) (h : Heap K V) (key : K) (c : List (BucketOf K V))
    (hc : h.chains[(bidxOf h key).toNat]? = some c) (hne : c ≠ []) (hfuel : c.length ≤ fuel)
    (hrep : ∀ b ∈ c, RepB (hkOf h) b) :
    call fuel h Gen.Deep.T_MapOf_Load [.key key] =
      some (match lookup key (flat c) with
        | some v => [.val v, .bool true]
        | none => [.zeroV, .bool false]) := by
  rw [load_eq_search fuel hf h key c hc hne hfuel (fun b hb => (hrep b hb).1)]
  have := searchChain_eq (hkOf h) key c hrep
  rw [show h2wOf h key = Gen.broadcast (hkOf h key) from rfl, this]

/-- the table of M3 a heap represents, as a term, which nothing uses: `load_is_model_load` carries that table as the
hypotheses `htbl`, `hseed` (`size` is not part of the lookup path) -/
def tblOf (h : Heap K V) (size : Int) : Tbl K V := { chains := h.chains.map flat, seed := h.seed, size := size }

/-- **the printed `MapOf.Load` is the `load` step of the sequential table model M3** (MapOf variant) on the table the
heap represents -/
theorem load_is_model_load [Inhabited V] (fuel : Nat) (hf : 8 ≤ fuel) (h : Heap K V) (m : St K V) (env : Model.Table.Env K)
    (key : K) (p : Nat) (hp : p < 64) (hlen : h.chains.length = 2 ^ p)
    (htbl : m.tbl.chains = h.chains.map flat) (hseed : m.tbl.seed = h.seed) (hhash : env.hash = h.hasher)
    (hne : ∀ c ∈ h.chains, c ≠ []) (hfuel : ∀ c ∈ h.chains, c.length ≤ fuel)
    (hrep : ∀ c ∈ h.chains, ∀ b ∈ c, RepB (hkOf h) b) :
    call fuel h Gen.Deep.T_MapOf_Load [.key key] =
      some (match (step mapOfVariant env m (.load key)).2.out with
        | .val v true => [.val v, .bool true]
        | _ => [.zeroV, .bool false]) := by
  have hb : (bidxOf h key).toNat = (Gen.h1 (h.hasher key h.seed)).toNat % 2 ^ p := by
    unfold bidxOf hashOf
    rw [hlen]
    exact mask_mod p hp _
  have hlt : (bidxOf h key).toNat < h.chains.length := by
    rw [hb, hlen]; exact Nat.mod_lt _ (Nat.two_pow_pos p)
  have hmem := List.getElem_mem hlt
  rw [load_eq_lookup fuel hf h key _ (List.getElem?_eq_getElem hlt) (hne _ hmem) (hfuel _ hmem) (hrep _ hmem)]
  simp only [step, chain_of_heap mapOfVariant env m key h.chains flat htbl _ hlt (by rw [hseed, hhash, hlen, hb]; rfl)]
  cases lookup key (flat h.chains[(bidxOf h key).toNat]) <;> rfl

/-! ### the printed `Load` after a write to the chain of a root bucket -/

theorem load_set_chain (fuel : Nat) (hf : 8 ≤ fuel) (h : Heap K V) (k : K) (hci : (bidxOf h k).toNat < h.chains.length)
    (c' : List (BucketOf K V)) (hne : c' ≠ []) (hlen : c'.length ≤ fuel) (hrep : ∀ b ∈ c', RepB (hkOf h) b)
    (x : K) (hx : bidxOf h x = bidxOf h k) :
    call fuel ({ h with chains := h.chains.set (bidxOf h k).toNat c' } : Heap K V) Gen.Deep.T_MapOf_Load [.key x] =
      some (match lookup x (flat c') with
        | some w => [.val w, .bool true]
        | none => [.zeroV, .bool false]) := by
  have hb : bidxOf ({ h with chains := h.chains.set (bidxOf h k).toNat c' } : Heap K V) x = bidxOf h k := by
    rw [← hx]; simp [bidxOf, hashOf]
  exact load_eq_lookup fuel hf _ x c' (by rw [hb]; simp [hci]) hne hlen hrep

theorem load_set_bucket (fuel : Nat) (hf : 8 ≤ fuel) (h : Heap K V) (k : K) (c : List (BucketOf K V))
    (hc : h.chains[(bidxOf h k).toNat]? = some c) (hfuel : c.length ≤ fuel) (hrep : ∀ b ∈ c, RepB (hkOf h) b)
    (j : Nat) (hj : j < c.length) (b' : BucketOf K V) (hb' : RepB (hkOf h) b') (x : K) (hx : bidxOf h x = bidxOf h k) :
    call fuel ({ h with chains := h.chains.set (bidxOf h k).toNat (c.set j b') } : Heap K V) Gen.Deep.T_MapOf_Load [.key x] =
      some (match lookup x (flat (c.set j b')) with
        | some w => [.val w, .bool true]
        | none => [.zeroV, .bool false]) := by
  refine load_set_chain fuel hf h k (lt_of_getElem? hc) _ (List.ne_nil_of_length_pos (by rw [List.length_set]; omega))
    (by rw [List.length_set]; exact hfuel) (fun y hy => ?_) x hx
  rcases List.mem_or_eq_of_mem_set hy with hm | he
  · exact hrep y hm
  · exact he ▸ hb'

end Proofs.DeepLoad
