import CacheVerif.Deep.Step
import CacheVerif.Generated.DeepSimp
import CacheVerif.Proofs.Twin
/-!
# The simp set `deep_simp` for the symbolic evaluation of the interpreter

The definitions of the interpreter and, for the right-hand sides, those of the hand-written model; the generic twin's model
and leaves are rewritten to the string twin's, so that one proof script evaluates the methods of both files.
-/
open Deep Spec
attribute [deep_simp] deepStep encode decode runMethod FUEL ofSt stOf callDecl callVal callUser execL execS
  execInit evalE evalArgs evalFields itemsOp FuncDecl.params FuncDecl.results FuncDecl.body alloc
  popTo zeroOf readVar lookup readCell writeCell binop assignVar assignField assignIndex defineAll
  assertTy readAll selField mkItem mkItem.go toV isNil ofItem asItem emitVisit

attribute [deep_simp] AMap.store AMap.load AMap.compute AMap.size

attribute [deep_simp] Model.Cache.step Model.Cache.set Model.Cache.get Model.Cache.expiration Model.Cache.expired Gen.expiration
  Model.Cache.getOrSetFn Model.Cache.refreshFn Model.Cache.liveOld Model.Cache.computeFn Model.Cache.getAndDelete
attribute [deep_simp] Proofs.Twin.step_eq Proofs.Twin.walk_eq Proofs.Twin.leaf_expiredWithNow_eq Proofs.Twin.leaf_expired_eq
  Proofs.Twin.leaf_expiration_eq

namespace Deep
variable {K V : Type}

-- `bindAll` enters the simp set through these two equations only: its third one (lists of different lengths) has side
-- conditions that `simp` tries, at a price, and fails to discharge at every parameter of every call
theorem bindAll_nil (env : Env) (w : W K V) : bindAll [] [] env w = some (env, w) := rfl

theorem bindAll_cons (x : String) (xs : List String) (v : Val K V) (vs : List (Val K V)) (env : Env) (w : W K V) :
    bindAll (x :: xs) (v :: vs) env w = bindAll xs vs ((x, (alloc w v).1) :: env) (alloc w v).2 := rfl

attribute [deep_simp] bindAll_nil bindAll_cons

/-! ### recording is an observer

`emit`, `enter` and `leave` are stated so that the world stays one record whatever `T.trace` is: only the fields `ev`
and `atomic` depend on the flag.  A method is then evaluated once, with the flag a variable, for the tracing and the
plain twin alike. -/

theorem emit_eq (T : Twin K V) (w : W K V) (e : Ev K V) :
    emit T w e = { w with ev := w.ev ++ if T.trace && !w.atomic then [e] else [] } := by
  obtain ⟨_, _, _, _, _, _, _, _, _, a⟩ := w
  cases ht : T.trace <;> cases a <;> simp [emit, ht]

theorem enter_eq (T : Twin K V) (w : W K V) : enter T w = { w with atomic := T.trace || w.atomic } := by
  cases w; cases ht : T.trace <;> simp [enter, ht]

theorem leave_eq (T : Twin K V) (w0 w : W K V) :
    leave T w0 w = { w with atomic := if T.trace then w0.atomic else w.atomic } := by
  cases w; cases ht : T.trace <;> simp [leave, ht]

theorem ite_append_ite {α : Type} (c : Prop) [Decidable c] (l₁ l₂ : List α) :
    ((if c then l₁ else []) ++ if c then l₂ else []) = if c then l₁ ++ l₂ else [] := by split <;> simp

theorem ite_append_ite_append {α : Type} (c : Prop) [Decidable c] (l₁ l₂ l₃ : List α) :
    ((if c then l₁ else []) ++ ((if c then l₂ else []) ++ l₃)) = (if c then l₁ ++ l₂ else []) ++ l₃ := by
  split <;> simp

theorem ite_append_self {α : Type} (c : Prop) [Decidable c] (l l' : List α) :
    (if c then l ++ l' else l) = l ++ if c then l' else [] := by split <;> simp

attribute [deep_simp] emit_eq enter_eq leave_eq ite_append_ite ite_append_ite_append ite_append_self

end Deep
