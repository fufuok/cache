import CacheVerif.Proofs.Words
/-!
# The word updates of the write path keep the representation the lookup theorems assume

`Proofs/Words.lean` / `DeepLoad(M).lean` prove the lookup path correct on every heap whose packed words represent
their slots (`RepB`, `RepM`).  These are invariants of exactly the word arithmetic `doCompute`, `appendToBucket*` and the
lock functions perform (machine-translated `setByte`, `storeTopHash`, `eraseTopHash`; `Expect.DoCompute` records the calls
and their order, not their arguments), so every heap reachable by these updates from fresh buckets satisfies the
hypotheses of the lookup theorems.

The last section is the shrink trigger of `MapOf`: `meta == defaultMeta` exactly when the bucket holds no entry
(`meta_default_iff_empty`).
-/
set_option linter.unusedSectionVars false
namespace Proofs.WordsInv
open Model.Words Proofs.Words Proofs.LeafBits Proofs.SlotScheme

variable {K V : Type} [DecidableEq K]

/-! ### `MapOf` -/

theorem byteOf_setByte (w : BitVec 64) (b : BitVec 8) (i j : Nat) (hj : j < 8) :
    byteOf (Gen.setByte w b i) j = if j = i then b else byteOf w j :=
  byteOf_eq_getByte ▸ getByte_setByte w b i j hj

theorem byteOf_defaultMeta (i : Nat) (hi : i < 8) : byteOf Gen.defaultMeta i = Gen.emptyMetaSlot :=
  byteOf_eq_getByte ▸ defaultMeta_bytes i hi

theorem repB_set (hk : K → BitVec 8) (b : BucketOf K V) (h : RepB hk b) (i : Nat) (hi : i < 5) (w : BitVec 64)
    (e : Option (K × V))
    (hw : ∀ j, j < 5 → byteOf w j =
      if j = i then (match e with | some (k, _) => hk k | none => Gen.emptyMetaSlot) else byteOf b.metaw j) :
    RepB hk ⟨w, b.entries.set i e⟩ := by
  refine ⟨by simpa using h.1, fun j hj => ?_⟩
  simp only
  rw [hw j hj, getD_set]
  by_cases hji : j = i
  · subst hji
    rw [if_pos rfl, if_pos ⟨rfl, by rw [h.1]; exact hi⟩]
    rcases e with _ | ⟨k, v⟩ <;> rfl
  · rw [if_neg hji, if_neg fun c => hji c.1.symm]
    exact h.2 j hj

/-- the buckets `newMapOfTable` creates -/
theorem repB_fresh (hk : K → BitVec 8) : RepB hk (⟨Gen.defaultMeta, [none, none, none, none, none]⟩ : BucketOf K V) :=
  ⟨rfl, fun i hi => by
    rw [show ([none, none, none, none, none] : List (Option (K × V))) = List.replicate 5 none from rfl,
      getD_replicate]
    exact byteOf_defaultMeta i (by have : i < 5 := hi; omega)⟩

/-- insertion: `setByte(meta, h2, i)` and the entry pointer -/
theorem repB_insert (hk : K → BitVec 8) (b : BucketOf K V) (h : RepB hk b) (i : Nat) (hi : i < 5) (k : K) (v : V) :
    RepB hk ⟨Gen.setByte b.metaw (hk k) i, b.entries.set i (some (k, v))⟩ :=
  repB_set hk b h i hi _ (some (k, v)) fun j hj => byteOf_setByte _ _ i j (by omega)

/-- deletion: `setByte(meta, emptyMetaSlot, i)` and the nil entry pointer -/
theorem repB_delete (hk : K → BitVec 8) (b : BucketOf K V) (h : RepB hk b) (i : Nat) (hi : i < 5) :
    RepB hk ⟨Gen.setByte b.metaw Gen.emptyMetaSlot i, b.entries.set i none⟩ :=
  repB_set hk b h i hi _ none fun j hj => byteOf_setByte _ _ i j (by omega)

/-- in-place update: a new entry with the same key in the same slot, `meta` untouched -/
theorem repB_update (hk : K → BitVec 8) (b : BucketOf K V) (h : RepB hk b) (i : Nat) (hi : i < 5) (k : K) (v v' : V)
    (hs : b.entries.getD i none = some (k, v)) : RepB hk ⟨b.metaw, b.entries.set i (some (k, v'))⟩ :=
  repB_set hk b h i hi _ (some (k, v')) fun j hj => by
    split
    · rename_i e
      subst e
      have := h.2 j hj
      rwa [hs] at this
    · rfl

/-- a new overflow bucket: `setByte(defaultMeta, h2, 0)` with the entry in slot 0 -/
theorem repB_newBucket (hk : K → BitVec 8) (k : K) (v : V) :
    RepB hk (⟨Gen.setByte Gen.defaultMeta (hk k) 0, [some (k, v), none, none, none, none]⟩ : BucketOf K V) :=
  repB_insert hk ⟨Gen.defaultMeta, [none, none, none, none, none]⟩ (repB_fresh hk) 0 (by omega) k v

/-! ### `Map` -/

theorem repM_set (hashOf : K → BitVec 64) (b : BucketM K V) (h : RepM hashOf b) (i : Nat) (hi : i < 3) (w : BitVec 64)
    (e : Option (K × V)) (he : match e with | some (k, _) => Gen.topHashMatch (hashOf k) w i = true | none => True)
    (hw : ∀ j, j < 3 → j ≠ i → ∀ x, Gen.topHashMatch x w j = Gen.topHashMatch x b.word j) :
    RepM hashOf ⟨w, b.slots.set i e⟩ := by
  refine ⟨by simpa using h.1, fun j hj => ?_⟩
  have hj' := h.2 j hj
  simp only
  rw [getD_set]
  by_cases hji : j = i
  · subst hji
    rw [if_pos ⟨rfl, by rw [h.1]; exact hi⟩]
    rcases e with _ | ⟨k, v⟩ <;> exact he
  · rw [if_neg fun c => hji c.1.symm]
    cases hs : b.slots.getD j none with
    | none => trivial
    | some kv =>
      obtain ⟨k, v⟩ := kv
      rw [hs] at hj'
      simp only
      rw [hw j hj hji]
      exact hj'

theorem repM_word (hashOf : K → BitVec 64) (b : BucketM K V) (h : RepM hashOf b) (w : BitVec 64)
    (hw : ∀ j, j < 3 → ∀ x, Gen.topHashMatch x w j = Gen.topHashMatch x b.word j) : RepM hashOf ⟨w, b.slots⟩ := by
  refine ⟨h.1, fun j hj => ?_⟩
  have hj' := h.2 j hj
  simp only
  cases hs : b.slots.getD j none with
  | none => trivial
  | some kv =>
    obtain ⟨k, v⟩ := kv
    rw [hs] at hj'
    simp only
    rw [hw j hj]
    exact hj'

theorem repM_fresh (hashOf : K → BitVec 64) (w : BitVec 64) : RepM hashOf (⟨w, [none, none, none]⟩ : BucketM K V) :=
  ⟨rfl, fun i _ => by
    rw [show ([none, none, none] : List (Option (K × V))) = List.replicate 3 none from rfl,
      getD_replicate]
    trivial⟩

/-- insertion: `storeTopHash(hash, word, i)` and the key / value pointers -/
theorem repM_insert (hashOf : K → BitVec 64) (b : BucketM K V) (h : RepM hashOf b) (i : Nat) (hi : i < 3) (k : K) (v : V) :
    RepM hashOf ⟨Gen.storeTopHash (hashOf k) b.word i, b.slots.set i (some (k, v))⟩ :=
  repM_set hashOf b h i hi _ (some (k, v)) (topHashMatch_store _ _ _ hi)
    fun j hj hji x => topHashMatch_store_other _ x _ i j hi hj (fun e => hji e.symm)

/-- deletion: `eraseTopHash(word, i)` and nil pointers -/
theorem repM_delete (hashOf : K → BitVec 64) (b : BucketM K V) (h : RepM hashOf b) (i : Nat) (hi : i < 3) :
    RepM hashOf ⟨Gen.eraseTopHash b.word i, b.slots.set i none⟩ :=
  repM_set hashOf b h i hi _ none trivial fun j hj hji x => topHashMatch_erase_other x _ i j hi hj (fun e => hji e.symm)

/-- in-place update of the value of a key: the word is untouched -/
theorem repM_update (hashOf : K → BitVec 64) (b : BucketM K V) (h : RepM hashOf b) (i : Nat) (hi : i < 3) (k : K) (v v' : V)
    (hs : b.slots.getD i none = some (k, v)) : RepM hashOf ⟨b.word, b.slots.set i (some (k, v'))⟩ := by
  have := h.2 i hi
  rw [hs] at this
  exact repM_set hashOf b h i hi _ (some (k, v')) this fun _ _ _ _ => rfl

/-- taking (`word | 1`) and releasing (`word &^ 1`) the bucket spin lock changes no match -/
theorem repM_lock (hashOf : K → BitVec 64) (b : BucketM K V) (h : RepM hashOf b) :
    RepM hashOf ⟨b.word ||| 1#64, b.slots⟩ ∧ RepM hashOf ⟨b.word &&& ~~~1#64, b.slots⟩ :=
  ⟨repM_word hashOf b h _ fun j hj x => topHashMatch_lockbit x _ j hj,
   repM_word hashOf b h _ fun j hj x => topHashMatch_unlockbit x _ j hj⟩

/-! ### the shrink trigger of `MapOf`: `newmetaw == defaultMeta` means "this bucket is empty now" -/

theorem eq_of_bytes (w w' : BitVec 64) (h : ∀ i, i < 8 → byteOf w i = byteOf w' i) : w = w' := by
  apply BitVec.eq_of_getLsbD_eq
  intro j hj
  have := congrArg (fun b : BitVec 8 => b.getLsbD (j % 8)) (h (j / 8) (by omega))
  simp only [byteOf_eq_getByte, getByte_getLsbD] at this
  have hlt : j % 8 < 8 := Nat.mod_lt _ (by omega)
  have hidx : 8 * (j / 8) + j % 8 = j := by omega
  simpa [hlt, hidx] using this

/-- the three bytes of `meta` no slot uses keep their initial value -/
def Upper (w : BitVec 64) : Prop := ∀ i, 5 ≤ i → i < 8 → byteOf w i = Gen.emptyMetaSlot

theorem upper_default : Upper Gen.defaultMeta := fun i _ h8 => byteOf_defaultMeta i h8

theorem upper_setByte (w : BitVec 64) (b : BitVec 8) (i : Nat) (hi : i < 5) (h : Upper w) : Upper (Gen.setByte w b i) := by
  intro j h5 h8
  rw [byteOf_setByte w b i j h8, if_neg (by omega)]
  exact h j h5 h8

/-- **`meta == defaultMeta` iff the bucket holds no entry** (for a hash byte that is never `emptyMetaSlot`, as `h2` is):
the test `doCompute` makes after a delete to decide whether to attempt a shrink is M3's "the bucket that held the entry
became empty" -/
theorem meta_default_iff_empty (hk : K → BitVec 8) (hne : ∀ k, hk k ≠ Gen.emptyMetaSlot) (b : BucketOf K V)
    (h : RepB hk b) (hu : Upper b.metaw) :
    b.metaw = Gen.defaultMeta ↔ b.entries = [none, none, none, none, none] := by
  have hlen : b.entries.length = 5 := h.1
  have hbyte : ∀ i, i < 5 → (byteOf b.metaw i = Gen.emptyMetaSlot ↔ b.entries.getD i none = none) := by
    intro i hi
    have := h.2 i hi
    cases he : b.entries.getD i none with
    | none => rw [he] at this; simp [this]
    | some kv => rw [he] at this; simp [this, hne kv.1]
  rw [show ([none, none, none, none, none] : List (Option (K × V))) = List.replicate 5 none from rfl,
    List.eq_replicate_iff]
  constructor
  · intro hm
    refine ⟨hlen, fun x hx => ?_⟩
    obtain ⟨i, hi, rfl⟩ := List.mem_iff_getElem.1 hx
    have hi5 : i < 5 := hlen ▸ hi
    have := (hbyte i hi5).1 (by rw [hm]; exact byteOf_defaultMeta i (by omega))
    rwa [List.getD_eq_getElem?_getD, List.getElem?_eq_getElem hi] at this
  · rintro ⟨_, hall⟩
    apply eq_of_bytes
    intro i hi
    rw [byteOf_defaultMeta i hi]
    by_cases h5 : i < 5
    · exact (hbyte i h5).2 (hall _ (getD_mem _ (hlen ▸ h5)))
    · exact hu i (by omega) hi

end Proofs.WordsInv
