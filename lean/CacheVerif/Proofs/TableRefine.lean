import CacheVerif.Proofs.Chains
import CacheVerif.Proofs.AMapFilter
import CacheVerif.Proofs.DoCompute
/-!
# M3 (`Model.Table`) refines `Spec.AMap`, for every hash function, seed oracle, presize hint and history

`Sim` relates a table to an association list with the same bindings, under the representation invariant `TInv` (every
key sits in the chain of its bucket index, no key twice in a chain, counter = number of entries).  A chain means the
association list of its occupied slots, and the chain operations are `AMap.set` / `AMap.erase` on it up to order
(`ChainMod.of_perm`).  The main theorems: `doCompute_spec` and `step_refines`.

Defined elsewhere: `specDC`, what `doCompute` does to a builtin map, with the equations `specDC_las`, `specDC_los`,
`specDC_compute`, `specDC_lad` that make it the methods of the builtin map, in `Proofs/DoCompute.lean` (in this namespace);
the induction `slots_induction` along a chain in `Proofs/Chains.lean`.
-/
set_option linter.unusedSectionVars false
namespace Proofs.TableRefine
open Spec Model.Table Proofs.Chains

variable {K V : Type} [DecidableEq K] [Inhabited V]

structure GoodVariant (var : Variant) : Prop where
  S_pos : 0 < var.S
  bidx_lt : ∀ (h : BitVec 64) (len : Nat), 0 < len → var.bidx h len < len
  growThr_ge : ∀ n, n ≤ var.growThr n

theorem mapVariant_good : GoodVariant mapVariant := by
  refine ⟨by decide, ?_, ?_⟩
  · intro h len hl; exact Nat.mod_lt _ hl
  · intro n; simp only [mapVariant, Gen.growThresholdMap]; omega

theorem mapOfVariant_good : GoodVariant mapOfVariant := by
  refine ⟨by decide, ?_, ?_⟩
  · intro h len hl; exact Nat.mod_lt _ hl
  · intro n; simp only [mapOfVariant, Gen.growThresholdMapOf]; omega

section
variable (var : Variant) (env : Env K)

def tget (t : Tbl K V) (k : K) : Option V := lookup k (t.chain (t.bucketOf var env k))

def chainKeys (s : Slots K V) : List K := (occupied s).map (·.1)

structure TInv (t : Tbl K V) : Prop where
  lenPos : 0 < t.len
  place : ∀ i, i < t.len → ∀ k ∈ chainKeys (t.chain i), t.bucketOf var env k = i
  nodup : ∀ i, i < t.len → (chainKeys (t.chain i)).Nodup
  size : t.size = (t.entries.length : Int)

/-- `TInv` without the counter: what the lemmas about chains and copying keep; `sim_mk` puts the counter back -/
structure TInv0 (t : Tbl K V) : Prop where
  lenPos : 0 < t.len
  place : ∀ i, i < t.len → ∀ k ∈ chainKeys (t.chain i), t.bucketOf var env k = i
  nodup : ∀ i, i < t.len → (chainKeys (t.chain i)).Nodup

theorem TInv.toTInv0 {t : Tbl K V} (h : TInv var env t) : TInv0 var env t := ⟨h.lenPos, h.place, h.nodup⟩

structure Sim (sp : AMap K V) (m : St K V) : Prop where
  wf : AMap.WF sp
  inv : TInv var env m.tbl
  get : ∀ k, sp.get k = tget var env m.tbl k
  minLenPos : 0 < m.minLen

/-- the builtin-map answer: new content, result, number of user-function invocations -/
def specStep (sp : AMap K V) : MOp K V → AMap K V × MOut K V × Nat
  | .load k => (sp, .val (sp.load k).1 (sp.load k).2, 0)
  | .store k v => (sp.store k v, .unit, 0)
  | .loadOrStore k v => ((sp.loadOrStore k v).1, .val (sp.loadOrStore k v).2.1 (sp.loadOrStore k v).2.2, 0)
  | .loadAndStore k v => ((sp.loadAndStore k v).1, .val (sp.loadAndStore k v).2.1 (sp.loadAndStore k v).2.2, 0)
  | .loadOrCompute k f =>
    ((sp.loadOrStore k f).1, .val (sp.loadOrStore k f).2.1 (sp.loadOrStore k f).2.2, if (sp.get k).isSome then 0 else 1)
  | .compute k g => ((sp.compute k g).1, .val (sp.compute k g).2.1 (sp.compute k g).2.2, 1)
  | .loadAndDelete k => ((sp.loadAndDelete k).1, .val (sp.loadAndDelete k).2.1 (sp.loadAndDelete k).2.2, 0)
  | .delete k => ((sp.loadAndDelete k).1, .unit, 0)
  | .range f => (sp, .visits (walk f sp), 0)
  | .clear => ([], .unit, 0)
  | .size => (sp, .size sp.size, 0)

/-- `Range` order is unspecified: the model's visit list must be the spec's for some enumeration order -/
def OutRel (sp : AMap K V) (op : MOp K V) (m s : MOut K V) : Prop :=
  match op with
  | .range f => ∃ π : List (K × V), π.Perm sp ∧ m = .visits (walk f π)
  | _ => m = s

/-! ### chains -/
@[simp] theorem occupied_nil : occupied ([] : Slots K V) = [] := rfl
@[simp] theorem occupied_none (r : Slots K V) : occupied (none :: r) = occupied r := rfl
@[simp] theorem occupied_some (e : K × V) (r : Slots K V) : occupied (some e :: r) = e :: occupied r := rfl
@[simp] theorem chainKeys_nil : chainKeys ([] : Slots K V) = [] := rfl
@[simp] theorem chainKeys_none (r : Slots K V) : chainKeys (none :: r) = chainKeys r := rfl
@[simp] theorem chainKeys_some (e : K × V) (r : Slots K V) : chainKeys (some e :: r) = e.1 :: chainKeys r := rfl

theorem lookup_eq_get (k : K) (s : Slots K V) : lookup k s = AMap.get (occupied s) k := by
  induction s using slots_induction with
  | nil => rfl
  | none r ih => simpa [lookup] using ih
  | some k' v r ih => simp [lookup, ih]

theorem lookup_eq_none_iff (k : K) (s : Slots K V) : lookup k s = none ↔ k ∉ chainKeys s := by
  rw [lookup_eq_get]; exact AMap.get_eq_none_iff _ _

theorem mem_occupied_iff {s : Slots K V} (hn : (chainKeys s).Nodup) (k : K) (v : V) :
    (k, v) ∈ occupied s ↔ lookup k s = some v := by
  rw [lookup_eq_get]; exact AMap.mem_iff_get (occupied s) hn (k, v)

theorem occupied_upd (k : K) (v : V) (s : Slots K V) (hn : (chainKeys s).Nodup) (hk : (lookup k s).isSome) :
    (occupied (upd k v s)).Perm (AMap.set (occupied s) k v) := by
  induction s using slots_induction with
  | nil => simp [lookup] at hk
  | none r ih => simpa [upd] using ih (by simpa using hn) (by simpa [lookup] using hk)
  | some k' v' r ih =>
    rw [chainKeys_some, List.nodup_cons, ← lookup_eq_none_iff, lookup_eq_get] at hn
    by_cases h : k' = k
    · subst h; simp [upd, AMap.set, AMap.erase_cons_eq, AMap.erase_of_get_none _ _ hn.1]
    · simpa [upd, h, AMap.set, AMap.erase_cons_ne _ _ _ _ h] using
        ((ih hn.2 (by simpa [lookup, h] using hk)).cons (k', v')).trans (List.Perm.swap _ _ _)

theorem occupied_del (k : K) (s : Slots K V) (hn : (chainKeys s).Nodup) : occupied (del k s) = AMap.erase (occupied s) k := by
  induction s using slots_induction with
  | nil => rfl
  | none r ih => simpa [del] using ih (by simpa using hn)
  | some k' v' r ih =>
    rw [chainKeys_some, List.nodup_cons, ← lookup_eq_none_iff, lookup_eq_get] at hn
    by_cases h : k' = k
    · subst h; simp [del, AMap.erase_cons_eq, AMap.erase_of_get_none _ _ hn.1]
    · simp [del, h, AMap.erase_cons_ne _ _ _ _ h, ih hn.2]

theorem occupied_fill (k : K) (v : V) (s s' : Slots K V) (hf : fillFirst k v s = some s') :
    (occupied s').Perm ((k, v) :: occupied s) := by
  induction s using slots_induction generalizing s' with
  | nil => simp [fillFirst] at hf
  | none r ih => simp [fillFirst] at hf; subst hf; simp
  | some k' v' r ih =>
    simp only [fillFirst, Option.map_eq_some_iff] at hf
    obtain ⟨r', hr, rfl⟩ := hf
    exact ((ih r' hr).cons (k', v')).trans (List.Perm.swap _ _ _)

theorem occupied_append_newBucket (S : Nat) (k : K) (v : V) (s : Slots K V) :
    (occupied (s ++ newBucket S k v)).Perm ((k, v) :: occupied s) := by
  simp [occupied, newBucket]

theorem chainKeys_replicate_none (n : Nat) : chainKeys (List.replicate n (none : Option (K × V))) = [] := by
  simp [chainKeys, occupied]

structure ChainMod (k : K) (nv : Option V) (c c' : Slots K V) : Prop where
  mem : ∀ x ∈ chainKeys c', x = k ∨ x ∈ chainKeys c
  nodup : (chainKeys c').Nodup
  look : ∀ x, lookup x c' = if x = k then nv else lookup x c

theorem ChainMod.of_perm {k : K} {nv : Option V} {c c' : Slots K V} (a : AMap K V) (hp : (occupied c').Perm a)
    (hw : AMap.WF a) (hg : ∀ x, a.get x = if k = x then nv else AMap.get (occupied c) x) : ChainMod k nv c c' := by
  have hw' : AMap.WF (occupied c') := (hp.map _).nodup_iff.2 hw
  have look : ∀ x, lookup x c' = if x = k then nv else lookup x c := fun x => by
    rw [lookup_eq_get, lookup_eq_get, AMap.get_perm hp hw', hg]; exact ite_congr (propext eq_comm) (fun _ => rfl) fun _ => rfl
  refine ⟨fun x hx => ?_, hw', look⟩
  apply Classical.byContradiction
  intro hc
  rw [not_or, ← lookup_eq_none_iff] at hc
  exact (lookup_eq_none_iff x c').1 (by rw [look, if_neg hc.1, hc.2]) hx

theorem chainMod_upd (k : K) (v old : V) (c : Slots K V) (hn : (chainKeys c).Nodup) (hk : lookup k c = some old) :
    ChainMod k (some v) c (upd k v c) :=
  .of_perm _ (occupied_upd k v c hn (by simp [hk])) (AMap.WF_set _ k v hn) (AMap.get_set _ k · v)

theorem chainMod_del (k : K) (c : Slots K V) (hn : (chainKeys c).Nodup) : ChainMod k none c (del k c) :=
  .of_perm _ (.of_eq (occupied_del k c hn)) (AMap.WF_erase _ k hn) (AMap.get_erase _ k)

theorem chainMod_ins (k : K) (v : V) (c c' : Slots K V) (hn : (chainKeys c).Nodup) (hk : lookup k c = none)
    (hp : (occupied c').Perm ((k, v) :: occupied c)) : ChainMod k (some v) c c' :=
  .of_perm _ hp ((AMap.WF_cons k v _).2 ⟨by rw [← lookup_eq_get, hk], hn⟩) fun _ => rfl

theorem chainMod_place (S : Nat) (k : K) (v : V) (c : Slots K V) (hn : (chainKeys c).Nodup) (hk : lookup k c = none) :
    ChainMod k (some v) c (place S k v c) := by
  refine chainMod_ins k v c _ hn hk ?_
  unfold place
  split
  · rename_i s' hf; exact occupied_fill k v c s' hf
  · exact occupied_append_newBucket S k v c

/-! ### tables -/

theorem bucketOf_lt (hv : GoodVariant var) (t : Tbl K V) (hl : 0 < t.len) (k : K) : t.bucketOf var env k < t.len :=
  hv.bidx_lt _ _ hl

theorem chain_eq_getElem (t : Tbl K V) (i : Nat) (h : i < t.chains.length) : t.chain i = t.chains[i] := by
  simp [Tbl.chain, h]

theorem chain_of_ge (t : Tbl K V) (i : Nat) (h : t.len ≤ i) : t.chain i = [] := by
  unfold Tbl.len at h
  simp [Tbl.chain, h]

theorem mem_entries_iff {t : Tbl K V} (hi : TInv0 var env t) (k : K) (v : V) :
    (k, v) ∈ t.entries ↔ tget var env t k = some v := by
  unfold Tbl.entries tget
  rw [List.mem_flatMap]
  constructor
  · rintro ⟨c, hc, hm⟩
    obtain ⟨i, hlt, rfl⟩ := List.mem_iff_getElem.mp hc
    rw [← chain_eq_getElem t i hlt] at hm
    have hk : k ∈ chainKeys (t.chain i) := List.mem_map.mpr ⟨(k, v), hm, rfl⟩
    rw [hi.place i hlt k hk]
    exact (mem_occupied_iff (hi.nodup i hlt) k v).mp hm
  · intro hl
    have hlt : t.bucketOf var env k < t.len := by
      apply Nat.lt_of_not_le; intro hge
      rw [chain_of_ge t _ hge] at hl; simp [lookup] at hl
    refine ⟨t.chain (t.bucketOf var env k), ?_, (mem_occupied_iff (hi.nodup _ hlt) k v).mpr hl⟩
    rw [chain_eq_getElem t _ hlt]; exact List.getElem_mem _

theorem entries_WF {t : Tbl K V} (hi : TInv0 var env t) : AMap.WF t.entries := by
  unfold AMap.WF AMap.keys Tbl.entries
  rw [List.map_flatMap]
  unfold List.Nodup
  rw [List.pairwise_flatMap]
  constructor
  · intro c hc
    obtain ⟨i, hlt, rfl⟩ := List.mem_iff_getElem.mp hc
    have := hi.nodup i hlt
    rwa [chain_eq_getElem t i hlt] at this
  · rw [List.pairwise_iff_getElem]
    intro i j hi' hj hij x hx y hy hxy
    subst hxy
    have h1 := hi.place i hi' x (by rw [chain_eq_getElem t i hi']; exact hx)
    have h2 := hi.place j hj x (by rw [chain_eq_getElem t j hj]; exact hy)
    omega

theorem entries_get {t : Tbl K V} (hi : TInv0 var env t) (k : K) : AMap.get t.entries k = tget var env t k := by
  apply Option.ext
  intro v
  rw [← mem_entries_iff var env hi k v]
  exact (AMap.mem_iff_get t.entries (entries_WF var env hi) (k, v)).symm

theorem entries_perm {t : Tbl K V} (hi : TInv0 var env t) (sp : AMap K V) (hw : AMap.WF sp)
    (hg : ∀ k, sp.get k = tget var env t k) : t.entries.Perm sp :=
  AMap.perm_of_get_eq t.entries sp (entries_WF var env hi) hw fun k => by rw [entries_get var env hi k, hg k]

theorem modify (hv : GoodVariant var) (t t' : Tbl K V) (k : K) (nv : Option V) (c' : Slots K V)
    (hi : TInv0 var env t)
    (hch : t'.chains = t.chains.set (t.bucketOf var env k) c') (hseed : t'.seed = t.seed)
    (hm : ChainMod k nv (t.chain (t.bucketOf var env k)) c') :
    TInv0 var env t' ∧ ∀ x, tget var env t' x = if x = k then nv else tget var env t x := by
  have hlen : t'.len = t.len := by simp [Tbl.len, hch]
  have hb : ∀ x, t'.bucketOf var env x = t.bucketOf var env x := by
    intro x; simp only [Tbl.bucketOf, hseed, hlen]
  have hlt := bucketOf_lt var env hv t hi.lenPos k
  have hc : ∀ j, t'.chain j = if t.bucketOf var env k = j then c' else t.chain j := by
    intro j
    unfold Tbl.len at hlt
    simp only [Tbl.chain, hch, List.getD_eq_getElem?_getD, List.getElem?_set, hlt, if_true]
    split <;> simp
  refine ⟨⟨by rw [hlen]; exact hi.lenPos, ?_, ?_⟩, ?_⟩
  · intro i hil x hx
    rw [hb]
    rw [hc] at hx
    split at hx
    · rename_i hij
      rcases hm.mem x hx with rfl | hx'
      · exact hij
      · rw [← hij]; exact hi.place _ hlt x hx'
    · exact hi.place i (by rw [← hlen]; exact hil) x hx
  · intro i hil
    rw [hc]
    split
    · exact hm.nodup
    · exact hi.nodup i (by rw [← hlen]; exact hil)
  · intro x
    unfold tget
    rw [hb, hc]
    split
    · rename_i hij
      rw [hm.look x, hij]
    · rename_i hij
      have : x ≠ k := by intro e; subst e; exact hij rfl
      rw [if_neg this]

theorem newTbl_len (len gen : Nat) : (newTbl (V := V) var env len gen).len = len := by
  simp [newTbl, Tbl.len]

theorem newTbl_chain (len gen i : Nat) : chainKeys ((newTbl (V := V) var env len gen).chain i) = [] := by
  simp only [newTbl, Tbl.chain, List.getD_eq_getElem?_getD, List.getElem?_replicate]
  split
  · simp [emptyChain, chainKeys_replicate_none]
  · simp

theorem newTbl_inv0 (len gen : Nat) (h : 0 < len) : TInv0 var env (newTbl (V := V) var env len gen) := by
  refine ⟨by rw [newTbl_len]; exact h, ?_, ?_⟩
  · intro i _ k hk; rw [newTbl_chain] at hk; simp at hk
  · intro i _; rw [newTbl_chain]; exact List.nodup_nil

theorem newTbl_tget (len gen : Nat) (k : K) : tget var env (newTbl (V := V) var env len gen) k = none := by
  unfold tget
  rw [lookup_eq_none_iff, newTbl_chain]; simp

theorem newTbl_entries (len gen : Nat) : (newTbl (V := V) var env len gen).entries = [] := by
  simp only [newTbl, Tbl.entries, List.flatMap_eq_nil_iff, List.mem_replicate]
  rintro c ⟨_, rfl⟩
  have := chainKeys_replicate_none (K := K) (V := V) var.S
  simpa [chainKeys, emptyChain] using this

/-! ### copying into a fresh table -/

omit [Inhabited V] in
theorem copyAll_cons (e : K × V) (es : List (K × V)) (d : Tbl K V) :
    copyAll var env (e :: es) d =
      copyAll var env es { (d.setChain (d.bucketOf var env e.1)
        (place var.S e.1 e.2 (d.chain (d.bucketOf var env e.1)))) with size := d.size + 1 } := rfl

omit [Inhabited V] in
theorem copyAll_frame (es : List (K × V)) (d : Tbl K V) :
    (copyAll var env es d).len = d.len ∧ (copyAll var env es d).seed = d.seed ∧
    (copyAll var env es d).size = d.size + (es.length : Int) := by
  induction es generalizing d with
  | nil => simp [copyAll]
  | cons e es ih =>
    rw [copyAll_cons, (ih _).1, (ih _).2.1, (ih _).2.2]
    exact ⟨by simp [Tbl.len, Tbl.setChain], rfl, by simp only [List.length_cons]; omega⟩

theorem copyAll_spec (hv : GoodVariant var) : ∀ (es : List (K × V)) (d : Tbl K V),
    TInv0 var env d → AMap.WF es → (∀ e ∈ es, tget var env d e.1 = none) →
    TInv0 var env (copyAll var env es d) ∧
    ∀ x, tget var env (copyAll var env es d) x = (AMap.get es x).or (tget var env d x) := by
  intro es
  induction es with
  | nil => intro d hd _ _; exact ⟨hd, fun x => by simp [copyAll]⟩
  | cons e es ih =>
    intro d hd hw habs
    obtain ⟨k, v⟩ := e
    obtain ⟨hn, hw⟩ := (AMap.WF_cons k v es).mp hw
    obtain ⟨h1, h1g⟩ := modify var env hv d
      { (d.setChain (d.bucketOf var env k) (place var.S k v (d.chain (d.bucketOf var env k)))) with size := d.size + 1 }
      k (some v) _ hd rfl rfl
      (chainMod_place var.S k v _ (hd.nodup _ (bucketOf_lt var env hv d hd.lenPos k)) (habs (k, v) List.mem_cons_self))
    obtain ⟨i1, i2⟩ := ih _ h1 hw fun e he => by
      rw [h1g, if_neg (AMap.ne_of_get_none hn he)]; exact habs e (List.mem_cons_of_mem _ he)
    refine ⟨i1, fun x => ?_⟩
    rw [copyAll_cons, i2, h1g, AMap.get_cons]
    by_cases hx : x = k
    · subst hx; simp [hn]
    · simp [hx, Ne.symm hx]

/-! ### `Sim` -/

theorem Sim.size_eq {sp : AMap K V} {m : St K V} (h : Sim var env sp m) : m.tbl.size = (sp.length : Int) := by
  rw [h.inv.size, (entries_perm var env h.inv.toTInv0 sp h.wf h.get).length_eq]

theorem sim_mk (sp : AMap K V) (m : St K V) (hw : AMap.WF sp) (h0 : TInv0 var env m.tbl)
    (hg : ∀ k, sp.get k = tget var env m.tbl k) (hs : m.tbl.size = (sp.length : Int)) (hm : 0 < m.minLen) :
    Sim var env sp m :=
  ⟨hw, ⟨h0.lenPos, h0.place, h0.nodup, by rw [hs, (entries_perm var env h0 sp hw hg).length_eq]⟩, hg, hm⟩

theorem sim_rebuild (hv : GoodVariant var) (sp : AMap K V) (m m' : St K V) (h : Sim var env sp m) (n gen : Nat)
    (hn : 0 < n) (ht : m'.tbl = copyAll var env m.tbl.entries (newTbl var env n gen)) (hm : m'.minLen = m.minLen) :
    Sim var env sp m' := by
  have h0 := h.inv.toTInv0
  obtain ⟨i1, i2⟩ := copyAll_spec var env hv m.tbl.entries (newTbl var env n gen)
    (newTbl_inv0 var env n gen hn) (entries_WF var env h0) (fun e _ => newTbl_tget var env n gen e.1)
  refine sim_mk var env sp m' h.wf (ht ▸ i1) (fun k => ?_) ?_ (hm ▸ h.minLenPos)
  · rw [ht, i2, newTbl_tget, entries_get var env h0, h.get]; simp
  · rw [ht, (copyAll_frame var env _ _).2.2, (entries_perm var env h0 sp h.wf h.get).length_eq]
    simp [newTbl]

theorem resize_grow_sim (hv : GoodVariant var) (sp : AMap K V) (m : St K V) (h : Sim var env sp m) :
    Sim var env sp (resize var env m .grow) :=
  sim_rebuild var env hv sp m _ h (m.tbl.len * 2) m.gen (by have := h.inv.lenPos; omega) rfl rfl

theorem resize_shrink_sim (hv : GoodVariant var) (sp : AMap K V) (m : St K V) (h : Sim var env sp m) :
    Sim var env sp (resize var env m .shrink) := by
  unfold resize
  simp only
  split
  · exact h
  · split
    · rename_i hc
      simp only [Bool.and_eq_true, decide_eq_true_eq] at hc
      have := h.minLenPos
      exact sim_rebuild var env hv sp m _ h (m.tbl.len / 2) m.gen (by omega) rfl rfl
    · exact h

theorem resize_clear_sim (sp : AMap K V) (m : St K V) (h : Sim var env sp m) :
    Sim var env ([] : AMap K V) (resize var env m .clear) :=
  sim_mk var env [] _ AMap.WF_nil (newTbl_inv0 var env m.minLen m.gen h.minLenPos)
    (fun k => (newTbl_tget var env m.minLen m.gen k).symm) rfl h.minLenPos

/-! ### `doCompute` -/

theorem sim_modify (hv : GoodVariant var) (sp sp' : AMap K V) (m m' : St K V) (k : K) (nv : Option V)
    (c' : Slots K V) (h : Sim var env sp m)
    (hch : m'.tbl.chains = m.tbl.chains.set (m.tbl.bucketOf var env k) c') (hseed : m'.tbl.seed = m.tbl.seed)
    (hm : ChainMod k nv (m.tbl.chain (m.tbl.bucketOf var env k)) c')
    (hw' : AMap.WF sp') (hg' : ∀ x, sp'.get x = if k = x then nv else sp.get x)
    (hs : m'.tbl.size = (sp'.length : Int)) (hmin : m'.minLen = m.minLen) : Sim var env sp' m' := by
  obtain ⟨h0, hg⟩ := modify var env hv m.tbl m'.tbl k nv c' h.inv.toTInv0 hch hseed hm
  exact sim_mk var env sp' m' hw' h0
    (fun x => by rw [hg', hg, h.get]; exact ite_congr (propext eq_comm) (fun _ => rfl) fun _ => rfl) hs
    (hmin ▸ h.minLenPos)

theorem sim_del (hv : GoodVariant var) (sp : AMap K V) (m : St K V) (k : K) (old : V) (h : Sim var env sp m)
    (hget : sp.get k = some old) :
    Sim var env (sp.erase k)
      { m with tbl := { (m.tbl.setChain (m.tbl.bucketOf var env k) (del k (m.tbl.chain (m.tbl.bucketOf var env k)))) with size := m.tbl.size - 1 } } := by
  have hlt := bucketOf_lt var env hv m.tbl h.inv.lenPos k
  refine sim_modify var env hv sp _ m _ k none _ h rfl rfl (chainMod_del k _ (h.inv.nodup _ hlt))
    (AMap.WF_erase sp k h.wf) (AMap.get_erase sp k) ?_ rfl
  have := AMap.length_erase_of_get_some sp h.wf k old hget
  show m.tbl.size - 1 = _
  rw [Sim.size_eq var env h]; omega

theorem sim_upd (hv : GoodVariant var) (sp : AMap K V) (m : St K V) (k : K) (old v : V) (h : Sim var env sp m)
    (hget : sp.get k = some old) :
    Sim var env (sp.set k v)
      { m with tbl := m.tbl.setChain (m.tbl.bucketOf var env k) (upd k v (m.tbl.chain (m.tbl.bucketOf var env k))) } := by
  have hlt := bucketOf_lt var env hv m.tbl h.inv.lenPos k
  refine sim_modify var env hv sp _ m _ k (some v) _ h rfl rfl
    (chainMod_upd k v old _ (h.inv.nodup _ hlt) ((h.get k).symm.trans hget))
    (AMap.WF_set sp k v h.wf) (fun x => AMap.get_set sp k x v) ?_ rfl
  show m.tbl.size = _
  rw [Sim.size_eq var env h, AMap.length_set_of_get_some sp h.wf k v old hget]

theorem sim_ins (hv : GoodVariant var) (sp : AMap K V) (m : St K V) (k : K) (v : V) (c' : Slots K V)
    (h : Sim var env sp m) (hget : sp.get k = none)
    (hp : (occupied c').Perm ((k, v) :: occupied (m.tbl.chain (m.tbl.bucketOf var env k)))) :
    Sim var env (sp.set k v)
      { m with tbl := { (m.tbl.setChain (m.tbl.bucketOf var env k) c') with size := m.tbl.size + 1 } } := by
  have hlt := bucketOf_lt var env hv m.tbl h.inv.lenPos k
  refine sim_modify var env hv sp _ m _ k (some v) _ h rfl rfl
    (chainMod_ins k v _ c' (h.inv.nodup _ hlt) ((h.get k).symm.trans hget) hp)
    (AMap.WF_set sp k v h.wf) (fun x => AMap.get_set sp k x v) ?_ rfl
  show m.tbl.size + 1 = _
  rw [Sim.size_eq var env h, AMap.length_set_of_get_none sp k v hget]; omega

/-- **`doCompute` on related states**: it returns within its retry budget (every retry doubles the table, and a retry
happens only above the grow threshold), with the builtin map's state and result -/
theorem doCompute_spec (hv : GoodVariant var) (k : K) (g : Option V → V × Bool) (lie co : Bool) :
    ∀ (fuel : Nat) (sp : AMap K V) (m : St K V), Sim var env sp m → m.tbl.size.toNat - m.tbl.len < fuel →
      ∃ m', doCompute var env m k g lie co fuel = some (m', (specDC sp k g lie co).2) ∧
        Sim var env (specDC sp k g lie co).1 m' := by
  intro fuel
  induction fuel with
  | zero => intro sp m _ hf; omega
  | succ fuel ih =>
    intro sp m h hf
    have hget : sp.get k = lookup k (m.tbl.chain (m.tbl.bucketOf var env k)) := h.get k
    rw [doCompute]
    unfold specDC
    cases hl : lookup k (m.tbl.chain (m.tbl.bucketOf var env k)) with
    | some old =>
      rw [hl] at hget
      simp only [hget]
      by_cases hlie : lie = true
      · simp only [if_pos hlie]; exact ⟨m, rfl, h⟩
      · simp only [if_neg hlie]
        by_cases hdel : (g (some old)).2 = true
        · simp only [if_pos hdel]
          refine ⟨_, rfl, ?_⟩
          have h1 := sim_del var env hv sp m k old h hget
          split
          · exact resize_shrink_sim var env hv _ _ h1
          · exact h1
        · simp only [if_neg hdel]; exact ⟨_, rfl, sim_upd var env hv sp m k old _ h hget⟩
    | none =>
      rw [hl] at hget
      simp only [hget]
      -- absent: the user function declines, or the entry goes into the chain `c'`
      have hmiss : ∀ c', (occupied c').Perm ((k, (g none).1) :: occupied (m.tbl.chain (m.tbl.bucketOf var env k))) →
          ∃ m', (if (g none).2 = true then some (m, ((default : V), false))
            else some ({ m with tbl := { (m.tbl.setChain (m.tbl.bucketOf var env k) c') with size := m.tbl.size + 1 } },
              ((g none).1, co))) =
            some (m', (if (g none).2 = true then (sp, ((default : V), false)) else (sp.set k (g none).1, ((g none).1, co))).2) ∧
          Sim var env (if (g none).2 = true then (sp, ((default : V), false)) else (sp.set k (g none).1, ((g none).1, co))).1 m' := by
        intro c' hc'
        by_cases hdel : (g none).2 = true
        · simp only [if_pos hdel]; exact ⟨m, rfl, h⟩
        · simp only [if_neg hdel]; exact ⟨_, rfl, sim_ins var env hv sp m k _ c' h hget hc'⟩
      cases hf' : fillFirst k (g none).1 (m.tbl.chain (m.tbl.bucketOf var env k)) with
      | some chain' => exact hmiss chain' (occupied_fill k _ _ chain' hf')
      | none =>
        simp only
        by_cases hgrow : m.tbl.size > (var.growThr m.tbl.len : Int)
        · rw [if_pos hgrow]
          have hs := resize_grow_sim var env hv sp m h
          have := ih sp _ hs (by
            have e1 : (resize var env m .grow).tbl.len = m.tbl.len * 2 :=
              (copyAll_frame var env _ _).1.trans (newTbl_len var env _ _)
            have := hv.growThr_ge m.tbl.len
            have := h.inv.lenPos
            rw [Sim.size_eq var env hs, ← Sim.size_eq var env h, e1]
            omega)
          unfold specDC at this
          simpa only [hget] using this
        · rw [if_neg hgrow]; exact hmiss _ (occupied_append_newBucket var.S k _ _)

/-! ### the interface calls -/

theorem wrap_dc (hv : GoodVariant var) (sp : AMap K V) (m : St K V) (h : Sim var env sp m) (k : K)
    (g : Option V → V × Bool) (lie co : Bool) (calls : Nat) (drop : Bool) (r : AMap K V × (V × Bool))
    (hr : specDC sp k g lie co = r) :
    Sim var env r.1 (wrap m (doCompute var env m k g lie co (fuelFor m)) calls drop).1 ∧
    (wrap m (doCompute var env m k g lie co (fuelFor m)) calls drop).2.out = (if drop then .unit else .val r.2.1 r.2.2) ∧
    (wrap m (doCompute var env m k g lie co (fuelFor m)) calls drop).2.fnCalls = calls := by
  obtain ⟨m', hd, hs⟩ := doCompute_spec var env hv k g lie co (fuelFor m) sp m h (by unfold fuelFor; omega)
  rw [hd, ← hr]
  exact ⟨hs, rfl, rfl⟩

theorem new_sim (hint : Int) (growOnly : Bool) (hlen : 0 < (new (V := V) var env hint growOnly).tbl.len) :
    Sim var env ([] : AMap K V) (new var env hint growOnly) := by
  unfold new at hlen ⊢
  simp only [newTbl_len] at hlen
  exact sim_mk var env [] _ AMap.WF_nil (newTbl_inv0 var env _ 0 hlen) (fun k => (newTbl_tget var env _ 0 k).symm) rfl hlen

/-- **one call**: from related states, every interface call keeps the states related, answers what the
builtin map answers, and invokes the user function as often as the builtin-map semantics says -/
theorem step_refines (hv : GoodVariant var) (sp : AMap K V) (m : St K V) (h : Sim var env sp m) (op : MOp K V) :
    Sim var env (specStep sp op).1 (step var env m op).1 ∧
    OutRel sp op (step var env m op).2.out (specStep sp op).2.1 ∧
    (step var env m op).2.fnCalls = (specStep sp op).2.2 := by
  cases op with
  | load k =>
    simp only [step, specStep, OutRel, AMap.load, h.get k, tget]
    cases lookup k (m.tbl.chain (m.tbl.bucketOf var env k)) <;> exact ⟨h, rfl, rfl⟩
  | store k v =>
    exact wrap_dc var env hv sp m h k _ false false 0 true _ ((specDC_las sp k v).trans (AMap.loadAndStore_eq sp k v))
  | loadOrStore k v => exact wrap_dc var env hv sp m h k _ true false 0 false _ (specDC_los sp k v)
  | loadAndStore k v => exact wrap_dc var env hv sp m h k _ false false 0 false _ (specDC_las sp k v)
  | loadOrCompute k f =>
    simp only [step, ← show sp.get k = lookup k _ from h.get k]
    exact wrap_dc var env hv sp m h k _ true false _ false _ (specDC_los sp k f)
  | compute k g => exact wrap_dc var env hv sp m h k g false true 1 false _ (specDC_compute sp k g)
  | loadAndDelete k => exact wrap_dc var env hv sp m h k _ false false 0 false _ (specDC_lad sp k)
  | delete k => exact wrap_dc var env hv sp m h k _ false false 0 true _ (specDC_lad sp k)
  | range f =>
    exact ⟨h, ⟨m.tbl.entries, entries_perm var env h.inv.toTInv0 sp h.wf h.get, rfl⟩, rfl⟩
  | clear => exact ⟨resize_clear_sim var env sp m h, rfl, rfl⟩
  | size => exact ⟨h, congrArg MOut.size (Sim.size_eq var env h), rfl⟩

end

omit [DecidableEq K] [Inhabited V] in
theorem table_walk_true (l : List (K × V)) : walk (fun _ _ => true) l = l := by
  induction l with
  | nil => rfl
  | cons p rest ih => obtain ⟨k, v⟩ := p; simp [walk, ih]

end Proofs.TableRefine
