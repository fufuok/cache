import CacheVerif.Generated.TableLoad
import CacheVerif.Proofs.DeepT
/-!
# The printed `sumSize` of both tables adds up the counter stripes

`Gen.Deep.T_mapOfTable_sumSize` / `T_mapTable_sumSize` are printed from `internal/xsync` on every run (`for i := range
table.size { sum += atomic.LoadInt64(&table.size[i].c) }`).  For every heap the interpreter returns the sum of the
stripes - what `Size()` converts and returns, and what M3 keeps as `Tbl.size` (M4a sums the stripes one load at a time;
the sequential reading here is the quiescent case of C08).
-/
namespace Proofs.DeepSize
open Deep.T Proofs.DeepT

variable {K V : Type} [DecidableEq K]

def rangeS (d : FuncDecl) : Stmt := nth d.body 1

theorem range_getD (l : List Int) : (List.range l.length).map (fun i => l.getD i 0) = l := by
  apply List.ext_getElem
  · simp
  · intro i h1 h2
    simp at h1
    simp [List.getD_eq_getElem?_getD, h1]

theorem stripes_loop (fuel : Nat) (h : Heap K V) (res : List String) (body : Stmt)
    (hbody : ∀ (i : Nat) (acc : Int), i < h.stripes.length →
      exec fuel h res body [("i", .int i), ("sum", .int acc), ("", .int 0)] =
        some (.normal [("i", .int i), ("sum", .int (acc + h.stripes.getD i 0)), ("", .int 0)])) :
    ∀ (l : List Nat) (acc : Int), (∀ i ∈ l, i < h.stripes.length) →
      forIdx "i" (fun env => exec fuel h res body env) l [("sum", .int acc), ("", .int 0)] =
        some (.normal [("sum", .int (acc + (l.map fun i => h.stripes.getD i 0).sum)), ("", .int 0)]) := by
  intro l
  induction l with
  | nil => intro acc _; simp [forIdx]
  | cons i r ih =>
    intro acc hl
    rw [forIdx, hbody i acc (hl i (by simp))]
    simp only [List.length_cons, List.length_nil]
    have := ih (acc + h.stripes.getD i 0) (fun x hx => hl x (by simp [hx]))
    simp only [List.drop, List.map_cons, List.sum_cons] at this ⊢
    rw [show acc + (h.stripes.getD i 0 + (List.map (fun i => h.stripes.getD i 0) r).sum) =
      acc + h.stripes.getD i 0 + (List.map (fun i => h.stripes.getD i 0) r).sum by omega]
    exact this

theorem sumSize_mapOf (fuel : Nat) (h : Heap K V) : call fuel h Gen.Deep.T_mapOfTable_sumSize [] = some [.int h.stripes.sum] := by
  have hbody : ∀ (i : Nat) (acc : Int), i < h.stripes.length →
      exec fuel h [""] (rangeBody (rangeS Gen.Deep.T_mapOfTable_sumSize)) [("i", .int i), ("sum", .int acc), ("", .int 0)] =
        some (.normal [("i", .int i), ("sum", .int (acc + h.stripes.getD i 0)), ("", .int 0)]) := by
    intro i acc hi
    simp [rangeS, Gen.Deep.T_mapOfTable_sumSize, hi]
  have hl := stripes_loop fuel h [""] _ hbody (List.range h.stripes.length) 0 (by intro i hi; simpa using hi)
  rw [range_getD, Int.zero_add] at hl
  have hrun : exec fuel h [""] Gen.Deep.T_mapOfTable_sumSize.body [("", .int 0)] = some (.ret [.int h.stripes.sum]) := by
    have hshape : Gen.Deep.T_mapOfTable_sumSize.body =
        .seq (nth Gen.Deep.T_mapOfTable_sumSize.body 0)
          (.seq (.rangeIdx "i" (.recvField "size") (rangeBody (rangeS Gen.Deep.T_mapOfTable_sumSize)))
            (nth Gen.Deep.T_mapOfTable_sumSize.body 2)) := rfl
    have p0 : exec fuel h [""] (nth Gen.Deep.T_mapOfTable_sumSize.body 0) [("", .int 0)] =
        some (.normal [("sum", .int 0), ("", .int 0)]) := by
      simp [Gen.Deep.T_mapOfTable_sumSize]
    have p2 : exec fuel h [""] (nth Gen.Deep.T_mapOfTable_sumSize.body 2) [("sum", .int h.stripes.sum), ("", .int 0)] =
        some (.ret [.int h.stripes.sum]) := by
      simp [Gen.Deep.T_mapOfTable_sumSize]
    rw [hshape]
    simp only [exec, p0, eval, hl, p2]
  have hcall : call fuel h Gen.Deep.T_mapOfTable_sumSize [] =
      (match exec fuel h [""] Gen.Deep.T_mapOfTable_sumSize.body [("", .int 0)] with
        | some (.ret vs) => some vs
        | _ => none) := rfl
  rw [hcall, hrun]

/-- `mapTable.sumSize` is printed to the same syntax as `mapOfTable.sumSize` -/
theorem sumSize_map (fuel : Nat) (h : Heap K V) : call fuel h Gen.Deep.T_mapTable_sumSize [] = some [.int h.stripes.sum] :=
  sumSize_mapOf fuel h

end Proofs.DeepSize
