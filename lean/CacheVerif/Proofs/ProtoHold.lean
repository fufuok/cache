import CacheVerif.Proofs.ProtoLocks
/-!
# M4a: a bucket lock, `resizeMu` and the `resizing` flag are each held for a bounded number of the holder's own steps

Whoever holds the lock of a root bucket - a writer between `lockBucket` and `unlockBucket`, the resizer while it copies
one bucket, `Range` while it snapshots one bucket - waits for nothing while holding it, and a measure bounded by the
number of counter stripes + 7 strictly decreases with each of its steps until the lock is released.  (The user function
of `Compute` / `LoadOrCompute` is one model step: the property's own exclusion for functions that block.)  With
`deadlock_free_strong` this is the progress argument of C13 short of scheduler fairness: every thread that waits for a
bucket lock waits for a thread that needs only finitely many of its own steps, each always enabled.

The same for the two other things a thread can wait for: `resizeMu` (`muMeasure`) and the `resizing` flag
(`flagMeasure`).
-/
set_option linter.unusedSectionVars false
namespace Proofs.ProtoHold
open Model.Proto Proofs.ProtoLocks

variable {K V : Type} [DecidableEq K]
variable {p : Params K} {t : Tid} {g g' : G K V} {l l' : L K V} {c : Choice K V}

/-- how many more of its own steps the holder needs, at most, before it releases the bucket lock it holds -/
def holdMeasure (p : Params K) (g : G K V) (l : L K V) : Nat :=
  let S := p.stripes (g.tables l.tbl).len
  match l.pc with
  | .dcChkResizing => S + 7
  | .dcChkTable => S + 6
  | .dcScan => S + 5
  | .dcSum => (S - l.si) + 4
  | .dcFn => 3
  | .dcCommit => 2
  | .dcUnlock | .dcUnlockWait | .dcUnlockRetry | .dcUnlockGrow => 1
  | .rzCopyDo => 2
  | .rzCopyUnlock => 1
  | .rgCopy => 2
  | .rgUnlock => 1
  | _ => 0

theorem holdMeasure_le (p : Params K) (g : G K V) (l : L K V) :
    holdMeasure p g l ≤ p.stripes (g.tables l.tbl).len + 7 := by
  simp only [holdMeasure]
  split <;> omega

theorem hold_step {T i : Nat} (hh : holdsBucket l = some (T, i)) (hs : tstep p t g l c = some (g', l'))
    (hlen : (g'.tables l.tbl).len = (g.tables l.tbl).len) :
    holdsBucket l' = none ∨ (holdsBucket l' = some (T, i) ∧ holdMeasure p g' l' < holdMeasure p g l) := by
  cases hpc : l.pc <;> simp only [holdsBucket, hpc, reduceCtorEq] at hh <;>
    simp only [tstep, hpc] at hs <;> (repeat' split at hs) <;>
    simp only [Option.some.injEq, reduceCtorEq, Prod.mk.injEq] at hs <;> obtain ⟨rfl, rfl⟩ := hs <;>
    simp_all [holdsBucket, holdMeasure, callWait, callResize] <;> omega

/-! ### `resizeMu` -/

def muMeasure (l : L K V) : Nat :=
  match l.pc with
  | .rzClearFlag => 3
  | .rzBroadcast => 2
  | .wfChk => 2
  | .rzMuUnlock | .wfMuUnlock => 1
  | _ => 0

theorem muMeasure_le (l : L K V) : muMeasure l ≤ 3 := by
  unfold muMeasure
  split <;> omega

theorem mu_hold_step (hh : holdsMu l.pc = true) (hs : tstep p t g l c = some (g', l')) :
    holdsMu l'.pc = false ∨ (holdsMu l'.pc = true ∧ muMeasure l' < muMeasure l) := by
  have hP := popCont_pc l
  cases hpc : l.pc <;> simp only [holdsMu, hpc, reduceCtorEq] at hh <;>
    simp only [tstep, hpc] at hs <;> (repeat' split at hs) <;>
    simp only [Option.some.injEq, Prod.mk.injEq] at hs <;> obtain ⟨rfl, rfl⟩ := hs <;>
    first
    | (left; rcases hP with h | h | h <;> rw [h] <;> rfl)
    | simp_all [holdsMu, muMeasure]

/-! ### the `resizing` flag -/

/-- how many more of its own steps the resizer needs, at most, before it lowers the flag: three per root bucket still to
copy, one per counter stripe still to sum, and a constant -/
def flagMeasure (p : Params K) (g : G K V) (l : L K V) : Nat :=
  match l.pc with
  | .rzLoadTable => 3 * (g.tables g.cur).len + p.stripes (g.tables g.cur).len + 9
  | .rzDecide => 3 * (g.tables l.rtbl).len + p.stripes (g.tables l.rtbl).len + 8
  | .rzDecideSum => 3 * (g.tables l.rtbl).len + (p.stripes (g.tables l.rtbl).len - l.si) + 7
  | .rzCopyLock => 3 * ((g.tables l.rtbl).len - l.ci) + 5
  | .rzCopyDo => 3 * ((g.tables l.rtbl).len - l.ci - 1) + 7
  | .rzCopyUnlock => 3 * ((g.tables l.rtbl).len - l.ci - 1) + 6
  | .rzPublish => 4
  | .rzMuLock => 3
  | .rzClearFlag => 2
  | _ => 0

/-- the resizer can be blocked only at `rzCopyLock` (a bucket lock: `hold_step`) and at `rzMuLock` (`mu_hold_step`) -/
theorem flag_hold_step (hr : isResizer l.pc = true) (hs : tstep p t g l c = some (g', l'))
    (hlen : usesRtbl l.pc = true → (g'.tables l.rtbl).len = (g.tables l.rtbl).len)
    (hcur : (g'.tables g.cur).len = (g.tables g.cur).len) :
    isResizer l'.pc = false ∨ (isResizer l'.pc = true ∧ flagMeasure p g' l' < flagMeasure p g l) := by
  cases hpc : l.pc <;> simp only [isResizer, hpc, reduceCtorEq] at hr <;>
    simp only [tstep, hpc] at hs <;> (repeat' split at hs) <;>
    simp only [Option.some.injEq, reduceCtorEq, Prod.mk.injEq] at hs <;> obtain ⟨rfl, rfl⟩ := hs <;>
    simp_all [isResizer, flagMeasure, usesRtbl] <;> omega

end Proofs.ProtoHold
