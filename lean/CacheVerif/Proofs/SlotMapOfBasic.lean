import CacheVerif.Model.SlotMapOf
import CacheVerif.Proofs.SlotScheme
/-!
# M4b (MapOf): pointwise lemmas about the slot accessors of one bucket chain
-/
set_option linter.unusedSectionVars false
namespace Proofs.SlotMapOfBasic
open Model.SlotMapOf Proofs.SlotScheme

variable {K V : Type} [DecidableEq K] (h2 : K → Nat)

def Sizes (g : G K V) : Prop := ∀ bk ∈ g.buckets, bk.mbytes.length = S ∧ bk.entries.length = S

theorem getMeta_none_of_ge (g : G K V) (b i : Nat) (h : g.buckets.length ≤ b) : getMeta g b i = none := by
  unfold getMeta
  rw [getD_of_le h]
  exact getD_replicate S i

theorem getEntry_none_of_ge (g : G K V) (b i : Nat) (h : g.buckets.length ≤ b) : getEntry g b i = none := by
  unfold getEntry
  rw [getD_of_le h]
  exact getD_replicate S i

theorem getEntry_lt_len (g : G K V) (b i : Nat) (p : Ptr) (h : getEntry g b i = some p) : b < g.buckets.length :=
  Nat.lt_of_not_le fun hle => by rw [getEntry_none_of_ge g b i hle] at h; cases h

theorem getMeta_inRange {g : G K V} (hs : Sizes g) {b i m : Nat} (h : getMeta g b i = some m) :
    b < g.buckets.length ∧ i < S := by
  have hb : b < g.buckets.length := Nat.lt_of_not_le fun hle => by rw [getMeta_none_of_ge g b i hle] at h; cases h
  refine ⟨hb, Nat.lt_of_not_le fun hle => ?_⟩
  unfold getMeta at h
  rw [getD_of_le (by rw [(hs _ (getD_mem _ hb)).1]; exact hle)] at h
  cases h

/-! ### `setMeta` / `setEntry` -/

theorem length_setMeta (g : G K V) (b i : Nat) (m : Option Nat) : (setMeta g b i m).buckets.length = g.buckets.length := by
  simp [setMeta]

theorem length_setEntry (g : G K V) (b i : Nat) (e : Option Ptr) : (setEntry g b i e).buckets.length = g.buckets.length := by
  simp [setEntry]

theorem getEntry_setMeta (g : G K V) (b i : Nat) (m : Option Nat) (b' i' : Nat) :
    getEntry (setMeta g b i m) b' i' = getEntry g b' i' := by
  unfold getEntry setMeta
  simp only [getD_modify]
  split <;> rfl

theorem getMeta_setEntry (g : G K V) (b i : Nat) (e : Option Ptr) (b' i' : Nat) :
    getMeta (setEntry g b i e) b' i' = getMeta g b' i' := by
  unfold getMeta setEntry
  simp only [getD_modify]
  split <;> rfl

theorem getMeta_setMeta (g : G K V) (b i : Nat) (m : Option Nat) (b' i' : Nat) :
    getMeta (setMeta g b i m) b' i' =
      if (b = b' ∧ b' < g.buckets.length) ∧ i = i' ∧ i' < (g.buckets.getD b' Bucket.empty).mbytes.length then m
      else getMeta g b' i' := by
  unfold getMeta setMeta
  rw [getD_modify]
  split
  · next hc => exact (getD_set _ _ _).trans (by simp only [hc, and_self, true_and])
  · next hc => exact (if_neg fun h => hc h.1).symm

theorem getEntry_setEntry (g : G K V) (b i : Nat) (e : Option Ptr) (b' i' : Nat) :
    getEntry (setEntry g b i e) b' i' =
      if (b = b' ∧ b' < g.buckets.length) ∧ i = i' ∧ i' < (g.buckets.getD b' Bucket.empty).entries.length then e
      else getEntry g b' i' := by
  unfold getEntry setEntry
  rw [getD_modify]
  split
  · next hc => exact (getD_set _ _ _).trans (by simp only [hc, and_self, true_and])
  · next hc => exact (if_neg fun h => hc h.1).symm

theorem sizes_setMeta (g : G K V) (hs : Sizes g) (b i : Nat) (m : Option Nat) : Sizes (setMeta g b i m) :=
  forall_mem_modify (fun bk h => ⟨by rw [List.length_set]; exact h.1, h.2⟩) hs

theorem sizes_setEntry (g : G K V) (hs : Sizes g) (b i : Nat) (e : Option Ptr) : Sizes (setEntry g b i e) :=
  forall_mem_modify (fun bk h => ⟨h.1, by rw [List.length_set]; exact h.2⟩) hs

/-! ### appended bucket -/

def newBucket (h : Nat) (p : Ptr) : Bucket :=
  { mbytes := (some h) :: List.replicate (S - 1) none, entries := (some p) :: List.replicate (S - 1) none }

theorem getMeta_append {g g' : G K V} {h : Nat} {p : Ptr} (hb : g'.buckets = g.buckets ++ [newBucket h p]) (b i : Nat) :
    getMeta g' b i = if b = g.buckets.length ∧ i = 0 then some h else getMeta g b i := by
  unfold getMeta
  rw [hb, getD_append_singleton]
  by_cases he : b = g.buckets.length
  · rw [if_pos he, getD_of_le (Nat.le_of_eq he.symm)]
    refine (getD_cons_replicate (some h) _ i).trans ?_
    rw [show (Bucket.empty.mbytes.getD i none) = none from getD_replicate S i]
    simp [he]
  · rw [if_neg he, if_neg fun h => he h.1]

theorem getEntry_append {g g' : G K V} {h : Nat} {p : Ptr} (hb : g'.buckets = g.buckets ++ [newBucket h p]) (b i : Nat) :
    getEntry g' b i = if b = g.buckets.length ∧ i = 0 then some p else getEntry g b i := by
  unfold getEntry
  rw [hb, getD_append_singleton]
  by_cases he : b = g.buckets.length
  · rw [if_pos he, getD_of_le (Nat.le_of_eq he.symm)]
    refine (getD_cons_replicate (some p) _ i).trans ?_
    rw [show (Bucket.empty.entries.getD i none) = none from getD_replicate S i]
    simp [he]
  · rw [if_neg he, if_neg fun h => he h.1]

theorem sizes_append {g g' : G K V} (hs : Sizes g) {h : Nat} {p : Ptr} (hb : g'.buckets = g.buckets ++ [newBucket h p]) :
    Sizes g' := by
  intro bk hbk
  rw [hb, List.mem_append] at hbk
  rcases hbk with hbk | hbk
  · exact hs bk hbk
  · simp only [List.mem_singleton] at hbk
    subst hbk
    simp [newBucket, S]

/-! ### `slotHolds`, `candidates` -/

theorem slotHolds_some_iff (g : G K V) (b i : Nat) (k : K) (v : V) :
    slotHolds h2 g b i k = some v ↔
      ∃ p, getMeta g b i = some (h2 k) ∧ getEntry g b i = some p ∧ g.heap p = some (k, v) := by
  unfold slotHolds
  cases getMeta g b i <;> cases getEntry g b i <;> try simp
  rename_i m p
  cases g.heap p <;> try simp
  constructor
  · rintro ⟨⟨rfl, rfl⟩, rfl⟩; exact ⟨rfl, rfl⟩
  · rintro ⟨rfl, rfl⟩; exact ⟨⟨rfl, rfl⟩, rfl⟩

theorem slotHolds_ne_none_iff (g : G K V) (b i : Nat) (k : K) :
    slotHolds h2 g b i k ≠ none ↔
      ∃ v p, getMeta g b i = some (h2 k) ∧ getEntry g b i = some p ∧ g.heap p = some (k, v) :=
  Option.ne_none_iff_exists'.trans (exists_congr fun v => slotHolds_some_iff h2 g b i k v)

theorem slotHolds_none_of_meta (g : G K V) (b i : Nat) (k : K) (h : getMeta g b i = none) :
    slotHolds h2 g b i k = none := by
  unfold slotHolds; rw [h]

theorem slotHolds_none_of_entry (g : G K V) (b i : Nat) (k : K) (h : getEntry g b i = none) :
    slotHolds h2 g b i k = none := by
  unfold slotHolds; rw [h]; cases getMeta g b i <;> rfl

theorem mem_candidates (g : G K V) (b i h : Nat) :
    i ∈ candidates (g.buckets.getD b Bucket.empty) h ↔ i < S ∧ getMeta g b i = some h := by
  unfold candidates getMeta
  simp [List.mem_filter, List.mem_range]

theorem candidates_length_le (bk : Bucket) (h : Nat) : (candidates bk h).length ≤ S := by
  unfold candidates
  have := List.length_filter_le (fun i => decide (bk.mbytes.getD i none = some h)) (List.range S)
  simpa using this

end Proofs.SlotMapOfBasic
