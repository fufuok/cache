import CacheVerif.Model.ConcCache
import CacheVerif.Spec.AMap
import CacheVerif.Proofs.LeafCache
import CacheVerif.Proofs.Runs
/-!
# M5: the thread step as a rule system

`Step g l c pc g' l'`: a thread at control point `pc` with locals `l`, in shared state `g` and with environment
choice `c`, can move to `g'`, `l'`.  One rule per branch of `Model.ConcCache.tstep`, with the guard of the branch
as premises and with the closures handed to `Compute` resolved into the cases absent / kept / deleted
(`AMap.compute_keepIf`) and `afterHit` into its two outcomes.  `step_of_tstep`: every step of `tstep` is an instance of
a rule.  What is proved about single steps goes by cases on the rules, which name the source pc, the guard and the
exact successor state; a fact about all steps (`Step.now`) is one `cases` with every case closed by `rfl`.
-/
set_option linter.unusedSectionVars false
namespace Proofs.ConcCacheStep
open Spec Model Model.ConcCache Proofs.LeafCache

variable {K V : Type} [DecidableEq K] [Inhabited V]

/-- result of `GetAndDelete`/`Delete`'s `Compute` that found `old` -/
def gdOut (g : G K V) (op : COp K V) (old : Option (Item V)) : Out K V :=
  match op, old with
  | .delete _, _ => .unit
  | _, some i => if !Cache.expired (view g) i then .val i.v true else .val default false
  | _, none => .val default false

inductive Step (g : G K V) (l : L K V) (c : Choice K V) : Pc → G K V → L K V → Prop
  | start (op : COp K V) : c.op = some op → Step g l c .idle g (startOp l op)
  | setReadDflt : Step g l c .setReadDflt g { l with pc := .setReadClock, d := g.dflt }
  | setReadClock : Step g l c .setReadClock g { l with pc := .setStore, e := if l.d > 0 then g.now + l.d else 0 }
  | setStore (k : K) (v : V) (d : Int) : l.op = some (.set k v d) →
      Step g l c .setStore
        { g with items := g.items.set k ⟨v, l.e⟩,
                 abs := { g.abs with live := if TTL.expired l.e g.now then g.abs.live.erase k
                                             else g.abs.live.set k ⟨v, l.e⟩ } }
        { l with pc := .ret, result := some .unit }
  | loadMiss (k : K) (op : COp K V) : opKey l = some k → l.op = some op → g.items.get k = none →
      Step g l c .getLoad g
        { l with pc := .ret, result := some (missResult op), absAtLoad := g.abs.live.get k, nowAtLoad := g.now }
  | loadHit (k : K) (op : COp K V) (i : Item V) : opKey l = some k → l.op = some op → g.items.get k = some i →
      Step g l c .getLoad g
        { l with pc := .getChkClock, loaded := some i, absAtLoad := g.abs.live.get k, nowAtLoad := g.now }
  | chkHit (i : Item V) (op : COp K V) : l.loaded = some i → l.op = some op → TTL.expired i.e g.now = false →
      (¬ ∃ k, op = .getWithTTL k ∧ 0 < i.e) →
      Step g l c .getChkClock g { l with pc := .ret, result := some (hitResult op i g.now) }
  | chkTTL (i : Item V) (k : K) : l.loaded = some i → l.op = some (.getWithTTL k) → TTL.expired i.e g.now = false →
      0 < i.e → Step g l c .getChkClock g { l with pc := .getTTLClock, loaded := some i }
  | chkDead (i : Item V) (op : COp K V) : l.loaded = some i → l.op = some op → TTL.expired i.e g.now = true →
      Step g l c .getChkClock g { l with pc := .getCompute }
  | cmpAbsent (k : K) (op : COp K V) : opKey l = some k → l.op = some op → g.items.get k = none →
      Step g l c .getCompute g { l with pc := .ret, result := some (missResult op) }
  | cmpDead (k : K) (op : COp K V) (i : Item V) : opKey l = some k → l.op = some op → g.items.get k = some i →
      TTL.expired i.e g.now = true →
      Step g l c .getCompute { g with items := g.items.erase k } { l with pc := .ret, result := some (missResult op) }
  | cmpHit (k : K) (op : COp K V) (i : Item V) : opKey l = some k → l.op = some op → g.items.get k = some i →
      TTL.expired i.e g.now = false → (¬ ∃ k, op = .getWithTTL k ∧ 0 < i.e) →
      Step g l c .getCompute { g with items := g.items.set k i }
        { l with pc := .ret, result := some (hitResult op i g.now) }
  | cmpTTL (k : K) (i : Item V) : l.op = some (.getWithTTL k) → g.items.get k = some i →
      TTL.expired i.e g.now = false → 0 < i.e →
      Step g l c .getCompute { g with items := g.items.set k i } { l with pc := .getTTLClock, loaded := some i }
  | ttlClock (i : Item V) : l.loaded = some i →
      Step g l c .getTTLClock g { l with pc := .ret, result := some (.valTTL i.v (i.e - g.now) true) }
  | rmw (op : COp K V) : l.op = some op →
      Step g l c .rmw (linearize { g with items := (Cache.step (view g) (toSpec op)).1.items } op)
        { l with pc := .ret, result := some (Cache.step (view g) (toSpec op)).2.out }
  | gdAbsent (k : K) (op : COp K V) : opKey l = some k → l.op = some op → g.items.get k = none →
      Step g l c .gdCompute (linearize { g with items := g.items.erase k } op)
        { l with pc := .ret, removed := none, result := some (gdOut g op none) }
  | gdFound (k : K) (op : COp K V) (i : Item V) : opKey l = some k → l.op = some op → g.items.get k = some i →
      Step g l c .gdCompute (linearize { g with items := g.items.erase k } op)
        { l with pc := .gdReadCb, removed := some i, result := some (gdOut g op (some i)),
                 erased := l.erased ++ [(k, i.v)] }
  | gdReadCb : Step g l c .gdReadCb g { l with pc := .gdFire, ec := g.cb }
  | gdFire (k : K) (i : Item V) (cb : Nat) : opKey l = some k → l.removed = some i → l.ec = some cb →
      Step g l c .gdFire { g with ledger := g.ledger ++ [(cb, k, i.v)] }
        { l with pc := .ret, fired := l.fired ++ [(k, i.v)] }
  | gdSilent : (∀ k i cb, opKey l = some k → l.removed = some i → l.ec = some cb → False) →
      Step g l c .gdFire g { l with pc := .ret }
  | deReadCb : Step g l c .deReadCb g { l with pc := .deReadClock, ec := g.cb }
  | deReadClock : Step g l c .deReadClock g { l with pc := .deVisit, passNow := g.now, queue := [] }
  | visitEnd : c.key = none → Step g l c .deVisit g { l with pc := .deFire }
  | visitDead (k : K) (i : Item V) : c.key = some k → c.seen = some i → TTL.expired i.e l.passNow = true →
      Step g l c .deVisit g { l with pc := .deCompute, cur := some (k, i) }
  | visitSkip (k : K) : c.key = some k → (∀ i, c.seen = some i → TTL.expired i.e l.passNow = false) →
      Step g l c .deVisit g l
  | sweepAbsent (k : K) (i0 : Item V) : l.cur = some (k, i0) → g.items.get k = none →
      Step g l c .deCompute g { l with pc := .deVisit, cur := none }
  | sweepLive (k : K) (i0 i : Item V) : l.cur = some (k, i0) → g.items.get k = some i →
      TTL.expired i.e l.passNow = false →
      Step g l c .deCompute { g with items := g.items.set k i } { l with pc := .deVisit, cur := none }
  | sweepDead (k : K) (i0 i : Item V) : l.cur = some (k, i0) → g.items.get k = some i →
      TTL.expired i.e l.passNow = true →
      Step g l c .deCompute { g with items := g.items.erase k }
        { l with pc := .deVisit, cur := none, queue := l.queue ++ (if l.ec.isSome then [(k, i.v)] else []),
                 erased := l.erased ++ [(k, i.v)] }
  | deFire (k : K) (v : V) (rest : List (K × V)) (cb : Nat) : l.queue = (k, v) :: rest → l.ec = some cb →
      Step g l c .deFire { g with ledger := g.ledger ++ [(cb, k, v)] }
        { l with pc := .deFire, queue := rest, fired := l.fired ++ [(k, v)] }
  | deDone : (∀ k v rest cb, l.queue = (k, v) :: rest → l.ec = some cb → False) →
      Step g l c .deFire g { l with pc := .ret, queue := [], result := some .unit }
  | clClear : Step g l c .clClear (linearize { g with items := [] } .clear) { l with pc := .ret, result := some .unit }
  | cntSize : Step g l c .cntSize g { l with pc := .ret, result := some (.count g.items.size) }
  | sdStore (d : Int) : l.op = some (.setDefaultExpiration d) →
      Step g l c .sdStore (linearize { g with dflt := d } (.setDefaultExpiration d))
        { l with pc := .ret, result := some .unit }
  | scStore (cb : Option Nat) : l.op = some (.setEvictedCallback cb) →
      Step g l c .scStore (linearize { g with cb := cb } (.setEvictedCallback cb))
        { l with pc := .ret, result := some .unit }
  | ret : Step g l c .ret g { l with pc := .idle, op := none }

theorem afterHit_cases (l : L K V) (op : COp K V) (i : Item V) (now : Int) :
    ((¬ ∃ k, op = .getWithTTL k ∧ 0 < i.e) ∧
        afterHit l op i now = { l with pc := .ret, result := some (hitResult op i now) }) ∨
    (∃ k, op = .getWithTTL k ∧ 0 < i.e ∧ afterHit l op i now = { l with pc := .getTTLClock, loaded := some i }) := by
  unfold afterHit
  split
  · by_cases h0 : 0 < i.e <;> simp [h0]
  · next hne => exact .inl ⟨fun ⟨k, hk, _⟩ => hne k hk, rfl⟩

theorem step_of_tstep {t : Tid} {g : G K V} {l : L K V} {c : Choice K V} {g' : G K V} {l' : L K V}
    (hs : tstep t g l c = some (g', l')) : Step g l c l.pc g' l' := by
  cases hpc : l.pc <;> simp only [tstep, hpc] at hs
  -- no guard: the one rule of the pc
  case setReadDflt | setReadClock | gdReadCb | deReadCb | deReadClock | clClear | cntSize | ret => cases hs; constructor
  -- one guard, on the call in flight (`idle`: on the environment's choice; `getTTLClock`: on the item held)
  case idle | setStore | getTTLClock | rmw | sdStore | scStore =>
    split at hs
    · cases hs; constructor; assumption
    · cases hs
  case getLoad =>
    split at hs
    · rename_i k op hk ho
      rw [AMap.load_eq] at hs
      cases hget : g.items.get k <;> rw [hget] at hs <;> cases hs
      · exact .loadMiss k op hk ho hget
      · exact .loadHit k op _ hk ho hget
    · cases hs
  case getChkClock =>
    split at hs
    · rename_i i op hi ho
      rw [item_expired_eq] at hs
      cases he : TTL.expired i.e g.now <;> rw [he] at hs <;> cases hs
      · rcases afterHit_cases l op i g.now with ⟨hno, h⟩ | ⟨k, rfl, hpos, h⟩ <;> rw [h]
        · exact .chkHit i op hi ho he hno
        · exact .chkTTL i k hi ho he hpos
      · exact .chkDead i op hi ho he
    · cases hs
  case getCompute =>
    split at hs
    · rename_i k op hk ho
      rw [AMap.compute_keepIf _ k _ (fun i => !Cache.expired (view g) i) rfl (fun _ => rfl)] at hs
      cases hget : g.items.get k with
      | none => rw [hget] at hs; cases hs; exact .cmpAbsent k op hk ho hget
      | some i =>
        have hx : Cache.expired (view g) i = TTL.expired i.e g.now := item_expired_eq _ _
        rw [hget] at hs
        simp only [hx] at hs
        cases he : TTL.expired i.e g.now <;> rw [he] at hs <;>
          simp only [Bool.not_false, Bool.not_true, Bool.false_eq_true, if_true, if_false] at hs <;> cases hs
        · rcases afterHit_cases l op i g.now with ⟨hno, h⟩ | ⟨k', rfl, hpos, h⟩ <;> rw [h]
          · exact .cmpHit k op i hk ho hget he hno
          · have hkk : k' = k := by simpa only [opKey, ho, Option.some.injEq] using hk
            exact .cmpTTL k i (hkk ▸ ho) hget he hpos
        · exact .cmpDead k op i hk ho hget he
    · cases hs
  case gdCompute =>
    split at hs
    · rename_i k op hk ho
      rw [AMap.compute_delete] at hs
      cases hget : g.items.get k <;> rw [hget] at hs <;> cases hs
      · exact .gdAbsent k op hk ho hget
      · exact .gdFound k op _ hk ho hget
    · cases hs
  case gdFire =>
    split at hs
    · cases hs; exact .gdFire _ _ _ ‹_› ‹_› ‹_›
    · cases hs; exact .gdSilent ‹_›
  case deVisit =>
    split at hs
    · cases hs; exact .visitEnd ‹_›
    · rename_i k hk
      split at hs
      · rename_i i hi
        rw [item_expiredWithNow_eq] at hs
        cases he : TTL.expired i.e l.passNow <;> rw [he] at hs <;> cases hs
        · exact .visitSkip k hk fun j hj => by rw [hi] at hj; cases hj; exact he
        · exact .visitDead k i hk hi he
      · rename_i hn
        cases hs
        exact .visitSkip k hk fun j hj => by rw [hn] at hj; cases hj
  case deCompute =>
    split at hs
    · rename_i k i0 hcur
      rw [AMap.compute_keepIf _ k _ (fun i => !Gen.item_expiredWithNow i.e l.passNow) rfl (fun _ => rfl)] at hs
      cases hget : g.items.get k with
      | none =>
        rw [hget] at hs
        simp only [List.append_nil] at hs
        cases hs; exact .sweepAbsent k i0 hcur hget
      | some i =>
        rw [hget] at hs
        simp only [item_expiredWithNow_eq] at hs
        cases he : TTL.expired i.e l.passNow <;> rw [he] at hs <;>
          simp only [Bool.not_true, Bool.not_false, Bool.false_and, Bool.true_and, Bool.false_eq_true, if_false, if_true,
            List.append_nil] at hs <;> cases hs
        · exact .sweepLive k i0 i hcur hget he
        · exact .sweepDead k i0 i hcur hget he
    · cases hs
  case deFire =>
    split at hs
    · cases hs; exact .deFire _ _ _ _ ‹_› ‹_›
    · cases hs; exact .deDone ‹_›

theorem Step.now {g : G K V} {l : L K V} {c : Choice K V} {p : Pc} {g' : G K V} {l' : L K V}
    (h : Step g l c p g' l') : g'.now = g.now := by
  cases h <;> rfl

theorem step_none {s s' : St K V} {c : Choice K V} {δ : Nat} (hs : step s none c δ = some s') :
    s' = { s with g := { s.g with now := s.g.now + δ, abs := (TTL.step s.g.abs (.tick δ)).1 } } :=
  (Option.some.inj hs).symm

theorem step_some {s s' : St K V} {t : Tid} {c : Choice K V} {δ : Nat} (hs : step s (some t) c δ = some s') :
    tstep t s.g (s.l t) c = some (s'.g, s'.l t) ∧ ∀ u, u ≠ t → s'.l u = s.l u := by
  simp only [step] at hs
  split at hs
  · cases hs
  · rename_i g' l' heq
    cases hs
    exact ⟨by simp only [heq, ↓reduceIte], fun u hu => if_neg hu⟩

theorem step_now_mono {s s' : St K V} {w : Option Tid} {c : Choice K V} {δ : Nat}
    (h : step s w c δ = some s') : s.g.now ≤ s'.g.now := by
  cases w with
  | none => cases step_none h; exact Int.le_add_of_nonneg_right (Int.natCast_nonneg δ)
  | some t => rw [(step_of_tstep (step_some h).1).now]; exact Int.le_refl _

theorem step_other {s s' : St K V} {w : Option Tid} {c : Choice K V} {δ : Nat} {t : Tid}
    (h : step s w c δ = some s') (hw : w ≠ some t) : s'.l t = s.l t := by
  cases w with
  | none => cases step_none h; rfl
  | some u => exact (step_some h).2 t fun e => hw (e ▸ rfl)

theorem run_eq_foldlM (sched : List (Option Tid × Choice K V × Nat)) (s : St K V) :
    run s sched = sched.foldlM (fun s x => step s x.1 x.2.1 x.2.2) s :=
  Proofs.Runs.eq_foldlM _ run (fun _ => rfl) (fun s x rest => by rw [run]; cases step s x.1 x.2.1 x.2.2 <;> rfl) sched s

theorem run_induction {P : St K V → Prop} (sched : List (Option Tid × Choice K V × Nat))
    (hstep : ∀ x ∈ sched, ∀ s s', P s → step s x.1 x.2.1 x.2.2 = some s' → P s') :
    ∀ s s', P s → run s sched = some s' → P s' :=
  fun s s' h hr => Proofs.Runs.foldlM_invariant _ P sched hstep s s' h (run_eq_foldlM sched s ▸ hr)

theorem run_now_mono {sched : List (Option Tid × Choice K V × Nat)} {s s' : St K V} (h : run s sched = some s') :
    s.g.now ≤ s'.g.now :=
  run_induction (P := fun x => s.g.now ≤ x.g.now) sched (fun _ _ _ _ ha hab => Int.le_trans ha (step_now_mono hab))
    s s' (Int.le_refl _) h

theorem run_quiet {t : Tid} {sched : List (Option Tid × Choice K V × Nat)} {s s' : St K V}
    (hq : ∀ x ∈ sched, x.1 ≠ some t) (h : run s sched = some s') : s'.l t = s.l t :=
  run_induction (P := fun x => x.l t = s.l t) sched (fun x hx _ _ ha hab => (step_other hab (hq x hx)).trans ha)
    s s' rfl h

theorem run_append {sc1 : List (Option Tid × Choice K V × Nat)} (sc2 : List (Option Tid × Choice K V × Nat))
    {a b : St K V} (hab : run a sc1 = some b) :
    run a (sc1 ++ sc2) = run b sc2 := by
  rw [run_eq_foldlM] at hab
  rw [run_eq_foldlM, List.foldlM_append, hab, run_eq_foldlM]; rfl

theorem reach_run {dflt : Int} {cb : Option Nat} {now : Int} {s s' : St K V}
    {sched : List (Option Tid × Choice K V × Nat)} (hr : Reach dflt cb now s) (h : run s sched = some s') :
    Reach dflt cb now s' := by
  obtain ⟨sc, hsc⟩ := hr
  exact ⟨sc ++ sched, by rw [run_append sched hsc, h]⟩

theorem reach_step {dflt : Int} {cb : Option Nat} {now : Int} {s s' : St K V} {w : Option Tid} {c : Choice K V}
    {δ : Nat} (hr : Reach dflt cb now s) (h : step s w c δ = some s') : Reach dflt cb now s' :=
  reach_run (sched := [(w, c, δ)]) hr (by simp only [run, h])

theorem reach_induction {P : St K V → Prop} {dflt : Int} {cb : Option Nat} {now : Int}
    (h0 : P (init dflt cb now)) (hstep : ∀ s s' w c δ, P s → step s w c δ = some s' → P s')
    {s : St K V} (hr : Reach dflt cb now s) : P s := by
  obtain ⟨sched, hs⟩ := hr
  exact run_induction sched (fun x _ s s' => hstep s s' x.1 x.2.1 x.2.2) _ s h0 hs

end Proofs.ConcCacheStep
