import CacheVerif.Model.Proto
import CacheVerif.Proofs.Runs
/-!
# M4a: what every proof about the protocol model starts from

The step hypothesis of `reach_induction` may use that the state it starts from is reachable, so a later invariant calls an
earlier one instead of carrying it along.  `succs` is the control-flow graph of a thread: a lemma about how a set of pcs is
entered (`pc_entry`) opens only the pcs it allows.
-/
namespace Model.Proto

section
variable {K V : Type}

/-! ## shared cells: what `setTbl` / `setLock` leave at an address -/

theorem setTbl_tables (g : G K V) (T : Nat) (tb : PTbl K V) (T' : Nat) :
    (setTbl g T tb).tables T' = if T' = T then tb else g.tables T' := rfl

theorem setLock_lock (tb : PTbl K V) (i : Nat) (o : Option Tid) (j : Nat) :
    (tb.setLock i o).lock j = if j = i then o else tb.lock j := rfl

theorem lock_setLock (g : G K V) (T i : Nat) (o : Option Tid) (T' j : Nat) :
    ((setTbl g T ((g.tables T).setLock i o)).tables T').lock j =
      if T' = T ∧ j = i then o else (g.tables T').lock j := by
  rw [setTbl_tables]
  by_cases hT : T' = T
  · subst hT; simp [setLock_lock]
  · simp [hT]

theorem setTbl_keeps {g : G K V} {α : Type} (f : PTbl K V → α) {T : Nat} {tb : PTbl K V} (h : f tb = f (g.tables T))
    (T' : Nat) : f ((setTbl g T tb).tables T') = f (g.tables T') := by
  rw [setTbl_tables]; split
  · rename_i e; rw [e, h]
  · rfl

/-! ## `popCont`, `startOp`: what they change, where they land -/

theorem popContAux_eq (l : L K V) : ∃ pc cs r, popCont.popContAux l = { l with pc := pc, conts := cs, result := r } ∧
    (pc = .ret ∨ pc = .dcLoadTable) ∧ (r = l.result ∨ r = some .unit) := by
  unfold popCont.popContAux
  split <;> exact ⟨_, _, _, rfl, by simp, by simp⟩

theorem popCont_eq (l : L K V) : ∃ pc cs r, popCont l = { l with pc := pc, conts := cs, result := r } ∧
    (pc = .ret ∨ pc = .dcLoadTable ∨ pc = .rzCas) ∧ (r = l.result ∨ r = some .unit) := by
  unfold popCont
  split
  case h_4 cs _ =>
    -- `.rzAfterWait :: cs`
    split
    · exact ⟨_, _, _, rfl, by simp, by simp⟩
    · obtain ⟨pc, cs', r, e, h1, h2⟩ := popContAux_eq { l with conts := cs }
      exact ⟨pc, cs', r, e, h1.elim Or.inl fun h => Or.inr (Or.inl h), h2⟩
  all_goals exact ⟨_, _, _, rfl, by simp, by simp⟩

theorem popCont_pc (l : L K V) : (popCont l).pc = .ret ∨ (popCont l).pc = .dcLoadTable ∨ (popCont l).pc = .rzCas := by
  obtain ⟨pc, cs, r, e, h, -⟩ := popCont_eq l
  rw [e]; exact h

theorem popCont_frames (l : L K V) : (popCont l).frames = l.frames := by
  obtain ⟨pc, cs, r, e, -⟩ := popCont_eq l
  rw [e]

theorem startOp_eq (l : L K V) (op : POp K V) : startOp l op =
    { l with pc := (startOp l op).pc, op := some op, result := none, fnCalls := (startOp l op).fnCalls,
             fnres := (startOp l op).fnres, delta := (startOp l op).delta, leftEmpty := (startOp l op).leftEmpty,
             visited := (startOp l op).visited, snap := (startOp l op).snap, ri := (startOp l op).ri } := by
  rcases op with _ | ⟨_, _, _ | _, _⟩ | _ | _ | _ <;> rfl

theorem startOp_pc (l : L K V) (op : POp K V) :
    (startOp l op).pc = .ldTable ∨ (startOp l op).pc = .dcFast ∨ (startOp l op).pc = .dcLoadTable ∨ (startOp l op).pc = .szTable
      ∨ (startOp l op).pc = .clTable ∨ (startOp l op).pc = .rgTable := by
  rcases op with _ | ⟨_, _, _ | _, _⟩ | _ | _ | _ <;> simp [startOp]

theorem startOp_frames (l : L K V) (op : POp K V) : (startOp l op).frames = l.frames := by rw [startOp_eq]

theorem startOp_tbl (l : L K V) (op : POp K V) : (startOp l op).tbl = l.tbl := by rw [startOp_eq]

theorem startOp_op (l : L K V) (op : POp K V) : (startOp l op).op = some op := by rw [startOp_eq]

end

variable {K V : Type} [DecidableEq K] {p : Params K}

/-! ## `step`, `run`, `Reach` -/

theorem step_cases {s s' : St K V} {t : Tid} {c : Choice K V} (hs : step p s t c = some s') :
    ∃ g' l', tstep p t s.g (s.l t) c = some (g', l') ∧ s' = { g := g', l := fun x => if x = t then l' else s.l x } := by
  unfold step at hs
  split at hs
  · cases hs
  · rename_i g' l' heq
    exact ⟨g', l', heq, (Option.some.inj hs).symm⟩

theorem step_def {s s' : St K V} {t : Tid} {c : Choice K V} (hs : step p s t c = some s') :
    tstep p t s.g (s.l t) c = some (s'.g, s'.l t) ∧ ∀ u, u ≠ t → s'.l u = s.l u := by
  obtain ⟨g', l', heq, rfl⟩ := step_cases hs
  exact ⟨by simpa using heq, fun u hu => if_neg hu⟩

theorem step_isSome (s : St K V) (u : Tid) (c : Choice K V) :
    (step p s u c).isSome = (tstep p u s.g (s.l u) c).isSome := by
  unfold step; split <;> simp [*]

theorem step_of_enabled {s : St K V} {t : Tid} {c : Choice K V} (h : (tstep p t s.g (s.l t) c).isSome = true) :
    ∃ s', step p s t c = some s' ∧ tstep p t s.g (s.l t) c = some (s'.g, s'.l t) := by
  obtain ⟨s', hs⟩ := Option.isSome_iff_exists.mp ((step_isSome s t c).trans h)
  exact ⟨s', hs, (step_def hs).1⟩

theorem run_nil (s : St K V) : run p s [] = some s := rfl

theorem run_cons (s : St K V) (t : Tid) (c : Choice K V) (rest : List (Tid × Choice K V)) :
    run p s ((t, c) :: rest) = (step p s t c).bind fun s' => run p s' rest := by
  rw [run]; cases step p s t c <;> rfl

theorem run_cons_some {s s' : St K V} {t : Tid} {c : Choice K V} {rest : List (Tid × Choice K V)} :
    run p s ((t, c) :: rest) = some s' ↔ ∃ s1, step p s t c = some s1 ∧ run p s1 rest = some s' := by
  rw [run_cons, Option.bind_eq_some_iff]

theorem run_eq_foldlM (sched : List (Tid × Choice K V)) (s : St K V) :
    run p s sched = sched.foldlM (fun s x => step p s x.1 x.2) s :=
  Proofs.Runs.eq_foldlM _ (run p) run_nil (fun s x rest => run_cons s x.1 x.2 rest) sched s

theorem run_append (s : St K V) (a b : List (Tid × Choice K V)) :
    run p s (a ++ b) = (run p s a).bind fun s' => run p s' b := by
  simp only [run_eq_foldlM, List.foldlM_append]; rfl

theorem run_induction (Q : St K V → Prop)
    (hstep : ∀ s t c s', Q s → step p s t c = some s' → Q s')
    {sched : List (Tid × Choice K V)} {s s' : St K V} (h : Q s) (hr : run p s sched = some s') : Q s' :=
  Proofs.Runs.foldlM_invariant _ Q sched (fun x _ s s' => hstep s x.1 x.2 s') s s' h (run_eq_foldlM sched s ▸ hr)

theorem reach_init : Reach p (init (V := V) p) := ⟨[], rfl⟩

theorem reach_step {s s' : St K V} {t : Tid} {c : Choice K V} (h : Reach p s)
    (hs : step p s t c = some s') : Reach p s' := by
  obtain ⟨sched, hr⟩ := h
  exact ⟨sched ++ [(t, c)], by rw [run_append, hr, Option.bind_some, run_cons, hs]; rfl⟩

theorem reach_run {sched : List (Tid × Choice K V)} {s s' : St K V} (h : Reach p s)
    (hr : run p s sched = some s') : Reach p s' :=
  run_induction (Reach p) (fun _ _ _ _ h hs => reach_step h hs) h hr

theorem reach_induction (P : St K V → Prop) (h0 : P (init p))
    (hstep : ∀ s t c s', Reach p s → P s → step p s t c = some s' → P s') {s : St K V} (h : Reach p s) : P s := by
  obtain ⟨sched, hr⟩ := h
  exact (run_induction (fun s => Reach p s ∧ P s)
    (fun s t c s' h hs => ⟨reach_step h.1 hs, hstep s t c s' h.1 h.2 hs⟩) ⟨reach_init, h0⟩ hr).2

theorem local_reach (P : L K V → Prop) (h0 : P L.init)
    (hstep : ∀ t g l c g' l', P l → tstep p t g l c = some (g', l') → P l') {s : St K V} (h : Reach p s) (u : Tid) :
    P (s.l u) := by
  refine reach_induction (fun s => ∀ u, P (s.l u)) (fun _ => h0) ?_ h u
  intro s t c s' _ hP hs u
  obtain ⟨g', l', hts, rfl⟩ := step_cases hs
  dsimp only
  split
  · exact hstep t s.g (s.l t) c g' l' (hP t) hts
  · exact hP u

/-! ## the control-flow graph of a thread -/

/-- the pcs a step at `pc` can lead to (`resize` / `waitForResize` return to `ret`, `dcLoadTable` or `rzCas`:
`popCont_pc`; a call starts at one of six pcs: `startOp_pc`).  The one table of pcs that has no default case. -/
def succs : Pc → List Pc
  | .idle => [.ldTable, .dcFast, .dcLoadTable, .szTable, .clTable, .rgTable]
  | .ldTable => [.ldRead]
  | .ldRead => [.ret, .dcLoadTable]
  | .szTable => [.szSum]
  | .szSum => [.szSum, .ret]
  | .dcFast => [.ldRead]
  | .dcLoadTable => [.dcLock]
  | .dcLock => [.dcChkResizing]
  | .dcChkResizing => [.dcUnlockWait, .dcChkTable]
  | .dcChkTable => [.dcUnlockRetry, .dcScan]
  | .dcScan => [.dcUnlock, .dcFn, .dcSum]
  | .dcSum => [.dcSum, .dcUnlockGrow, .dcFn]
  | .dcFn => [.dcCommit]
  | .dcCommit => [.dcUnlock]
  | .dcUnlock => [.dcAddSize]
  | .dcAddSize => [.dcMaybeShrink]
  | .dcMaybeShrink => [.rzFast, .ret]
  | .dcUnlockWait => [.wfMuLock]
  | .dcUnlockRetry => [.dcLoadTable]
  | .dcUnlockGrow => [.rzFast]
  | .rzFast => [.ret, .dcLoadTable, .rzCas, .rzFastSum]
  | .rzFastSum => [.rzFastSum, .ret, .dcLoadTable, .rzCas]
  | .rzCas => [.wfMuLock, .rzLoadTable]
  | .rzLoadTable => [.rzDecide]
  | .rzDecide => [.rzCopyLock, .rzDecideSum, .rzMuLock, .rzPublish]
  | .rzDecideSum => [.rzDecideSum, .rzCopyLock, .rzMuLock]
  | .rzCopyLock => [.rzCopyDo, .rzPublish]
  | .rzCopyDo => [.rzCopyUnlock]
  | .rzCopyUnlock => [.rzCopyLock]
  | .rzPublish => [.rzMuLock]
  | .rzMuLock => [.rzClearFlag]
  | .rzClearFlag => [.rzBroadcast]
  | .rzBroadcast => [.rzMuUnlock]
  | .rzMuUnlock => [.ret, .dcLoadTable, .rzCas]
  | .wfMuLock => [.wfChk]
  | .wfChk => [.wfPark, .wfMuUnlock]
  | .wfPark => [.wfRelock]
  | .wfRelock => [.wfChk]
  | .wfMuUnlock => [.ret, .dcLoadTable, .rzCas]
  | .clTable => [.rzFast]
  | .rgTable => [.rgLock]
  | .rgLock => [.rgCopy, .ret]
  | .rgCopy => [.rgUnlock]
  | .rgUnlock => [.rgVisit]
  | .rgVisit => [.ldTable, .dcFast, .dcLoadTable, .szTable, .clTable, .rgTable, .rgLock, .rgVisit, .ret]
  | .ret => [.idle, .rgVisit]

/-! The later files classify the pcs by tables of their own, each of which ends in a default case (`false`, `none`, `0`): a new
pc falls through all of them silently, so a change of `Pc` or `tstep` means a walk through this list.  The inclusions hold by
`cases pc <;> decide`.
* By call (`ProtoLocks`): `inDc`, `inRz`, `inWf`, `nonDcPc` are pairwise disjoint and cover `Pc` together with `idle`, `ret` and
  `ldRead` (which `Load` shares with the lock-free fast path of `doCompute`).
* A writer (`ProtoLocks`, `ProtoData`, `ProtoHW`): `oldPc ⊆ past2 = ProtoRange.pastChk2 ⊆ pastChk ⊆ hasBi ⊆ usesTbl ∩ inDc`; at a `pastChk`
  pc `holdsBucket` is `(tbl, bi)`; `beforeFn ⊆ inDc`, `afterFn ⊆ inDc`; `srchPc`, `past2` and the three pcs `dcUnlock`, `dcAddSize`,
  `dcMaybeShrink` partition `inDc ∪ {ldRead}`.
* A resizer (`ProtoLocks`, `ProtoData`, `ProtoClear`, `ProtoLin`): `copyPc ⊆ usesRtbl ⊆ rcurPc = usesRtbl ∪ usesNewT ⊆ isResizer ⊆ inRz`;
  `copyC` is `some _` only at `usesNewT` pcs; `holdsMu ⊆ inRz ∪ inWf`; `latePc ⊆ inRz`; `fixedSrc ⊇ inRz ∪ inWf`.
* A traversal (`ProtoData`, `ProtoRange`): `rgPc ⊆ inRg = rgPc ∪ {rgTable} ⊆ nonDcPc`, `rgPc ⊆ usesTbl`.
* `roPc` (`ProtoData`) meets none of `inRz`, `inWf`, `holdsMu`, `isResizer`, `usesTbl`; `quietPc = ¬ hasBi ∧ ¬ rcurPc` and `hasBi`,
  `rcurPc` are disjoint.
* Matches on the pc with a default that are not classifiers: `holdsBucket`, `copyC`; `holdMeasure`, `muMeasure`, `flagMeasure`
  (`ProtoHold`); `ProgAt` (`ProtoRange`); `willCommit`, `linOf` (`ProtoHW`). -/

theorem pc_step {t : Tid} {g g' : G K V} {l l' : L K V} {c : Choice K V}
    (hs : tstep p t g l c = some (g', l')) : l'.pc ∈ succs l.pc := by
  have hP := popCont_pc l
  have hS := startOp_pc (K := K) (V := V)
  obtain ⟨pc⟩ := l
  cases pc <;> simp only [tstep] at hs <;> (repeat' split at hs) <;> cases hs <;>
    simp only [succs, callResize, callWait, List.mem_cons, List.not_mem_nil, or_false, or_true, reduceCtorEq]
  -- what is left are the steps that end in `popCont` or `startOp` (`hP`, `hS`)
  all_goals grind

theorem pc_entry {t : Tid} {g g' : G K V} {l l' : L K V} {c : Choice K V}
    (P Q : Pc → Bool) (h : ∀ a, (succs a).any P = true → Q a = true)
    (hs : tstep p t g l c = some (g', l')) (hp : P l'.pc = true) : Q l.pc = true :=
  h _ (List.any_eq_true.mpr ⟨_, pc_step hs, hp⟩)

theorem read_entry {t : Tid} {g g' : G K V} {l l' : L K V} {c : Choice K V}
    (hs : tstep p t g l c = some (g', l')) (hpc' : l'.pc = .ldRead) : l'.tbl = g.cur ∧ g' = g := by
  have hsrc := pc_entry (· == .ldRead) (fun a => a == .ldTable || a == .dcFast) (by intro a; cases a <;> decide) hs
    (by simp [hpc'])
  simp only [Bool.or_eq_true, beq_iff_eq] at hsrc
  rcases hsrc with hpc | hpc <;> simp only [tstep, hpc, Option.some.injEq, Prod.mk.injEq] at hs <;>
    obtain ⟨rfl, rfl⟩ := hs <;> exact ⟨rfl, rfl⟩

/-! ## the calls of a thread -/

def regs (l : L K V) : Frame K V := ⟨l.tbl, l.ri, l.snap, l.visited⟩

/-- **what a step does to the calls of a thread**: it starts one (`nested`: from inside a `Range` visitor, which suspends the
traversal), ends one (`resume`: into the visitor, which gets its registers back), or is a step inside one -/
inductive CallEff (g : G K V) (l l' : L K V) : Prop
  | start (op : POp K V) : l.pc = .idle → l' = startOp l op → CallEff g l l'
  | nested (op : POp K V) : l.pc = .rgVisit → l' = startOp { l with frames := regs l :: l.frames } op → CallEff g l l'
  | done : l.pc = .ret → l.frames = [] → l' = { l with pc := .idle, op := none } → CallEff g l l'
  | resume (f : Frame K V) (fs : List (Frame K V)) : l.pc = .ret → l.frames = f :: fs →
      l' = { l with pc := .rgVisit, op := some .range, tbl := f.tbl, ri := f.ri, snap := f.snap, visited := f.visited,
                    frames := fs } → CallEff g l l'
  | inside : l.pc ≠ .ret → l'.op = l.op → l'.frames = l.frames → (l'.tbl = l.tbl ∨ l'.tbl = g.cur) →
      (∀ π, l'.result = some (.visits π) → l.result = some (.visits π) ∨
        ((l.pc = .rgLock ∨ l.pc = .rgVisit) ∧ π <+: l.visited ++ l.snap)) → CallEff g l l'

theorem call_step {t : Tid} {g g' : G K V} {l l' : L K V} {c : Choice K V}
    (hs : tstep p t g l c = some (g', l')) : CallEff g l l' := by
  -- `popCont` returns `unit` from `Clear`
  have hP : l.pc ≠ .ret → CallEff g l (popCont l) := fun hne => by
    obtain ⟨pc, cs, r, e, -, hr⟩ := popCont_eq l
    rw [e]
    exact .inside hne rfl rfl (.inl rfl) fun π hπ => .inl (by rcases hr with e | e <;> rw [e] at hπ <;> first | exact hπ | cases hπ)
  obtain ⟨pc⟩ := l
  cases pc <;> simp only [tstep] at hs
  case idle => split at hs <;> cases hs; exact .start _ rfl rfl
  case ret => split at hs <;> cases hs <;> first | exact .done rfl rfl rfl | exact .resume _ _ rfl rfl rfl
  case rgLock =>
    (repeat' split at hs) <;> cases hs
    · exact .inside nofun rfl rfl (.inl rfl) fun _ h => .inl h
    · exact .inside nofun rfl rfl (.inl rfl) fun π hπ => by cases hπ; exact .inr ⟨.inl rfl, List.prefix_append _ _⟩
  case rgVisit =>
    (repeat' split at hs) <;> cases hs
    · exact .nested _ rfl rfl
    · exact .inside nofun rfl rfl (.inl rfl) fun _ h => .inl h
    · exact .inside nofun rfl rfl (.inl rfl) fun _ h => .inl h
    · exact .inside nofun rfl rfl (.inl rfl) fun π hπ => by cases hπ; exact .inr ⟨.inr rfl, _, by rw [List.append_assoc]; rfl⟩
  all_goals (repeat' split at hs) <;> cases hs <;> first
    -- the table index and the result are kept
    | exact .inside nofun rfl rfl (.inl rfl) fun _ h => .inl h
    -- the table index is loaded with `cur` (`ldTable`, `szTable`, `dcFast`, `dcLoadTable`, `clTable`, `rgTable`)
    | exact .inside nofun rfl rfl (.inr rfl) fun _ h => .inl h
    -- the return from `resize` / `waitForResize`
    | exact hP nofun
    -- the result is set to something that is not a list of visits (`ldRead`, `szSum`, `dcScan`, `dcCommit`)
    | exact .inside nofun rfl rfl (.inl rfl) nofun

section
variable {t : Tid} {g g' : G K V} {l l' : L K V} {c : Choice K V}

theorem frames_step (hs : tstep p t g l c = some (g', l')) :
    (l'.frames = l.frames ∧ (l'.tbl = l.tbl ∨ l'.tbl = g.cur)) ∨
    (l.pc = .rgVisit ∧ l'.frames = regs l :: l.frames ∧ l'.tbl = l.tbl) ∨
    (l.pc = .ret ∧ ∃ f fs, l.frames = f :: fs ∧ l'.frames = fs ∧ l'.pc = .rgVisit ∧ regs l' = f) := by
  rcases call_step hs with ⟨op, -, rfl⟩ | ⟨op, hpc, rfl⟩ | ⟨-, -, rfl⟩ | ⟨f, fs, hpc, hf, rfl⟩ | ⟨-, -, h2, h3, -⟩
  · exact .inl ⟨startOp_frames _ _, .inl (startOp_tbl _ _)⟩
  · exact .inr (.inl ⟨hpc, startOp_frames _ _, startOp_tbl _ _⟩)
  · exact .inl ⟨rfl, .inl rfl⟩
  · exact .inr (.inr ⟨hpc, f, fs, hf, rfl, rfl, rfl⟩)
  · exact .inl ⟨h2, h3⟩

theorem op_step (hs : tstep p t g l c = some (g', l')) : l'.op = l.op ∨ l.pc = .ret ∨ ∃ l0 op, l' = startOp l0 op := by
  rcases call_step hs with ⟨op, -, e⟩ | ⟨op, -, e⟩ | ⟨h, -⟩ | ⟨_, _, h, -⟩ | ⟨-, h, -⟩
  · exact .inr (.inr ⟨_, _, e⟩)
  · exact .inr (.inr ⟨_, _, e⟩)
  · exact .inr (.inl h)
  · exact .inr (.inl h)
  · exact .inl h

end

end Model.Proto
