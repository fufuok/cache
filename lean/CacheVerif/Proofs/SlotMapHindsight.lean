import CacheVerif.Proofs.SlotMapReader
/-!
# M4b (Map): the three-read atomic snapshot of `Load` is linearizable against the chain's logical content
(hindsight), and a solo reader terminates within a bound
-/
set_option linter.unusedSectionVars false
namespace Proofs.SlotMapHindsight
open Model.SlotMap Proofs.SlotScheme Proofs.Runs

variable {K V : Type} [DecidableEq K] (top : K → Nat)

def soloReader (g : G K V) (l : RL K V) : Nat → RL K V
  | 0 => l
  | n + 1 => soloReader g (rstep top g l) n

theorem soloReader_eq_iter (g : G K V) (n : Nat) : ∀ l : RL K V, soloReader top g l n = iter (rstep top g) n l := by
  induction n with
  | zero => intro l; rfl
  | succ n ih => intro l; exact ih _

/-! ## reader hindsight -/

theorem run_append (xs ys : List (Act K V)) (s : St K V) :
    run top s (xs ++ ys) = (run top s xs).bind fun s' => run top s' ys := by
  simp only [run_eq_foldlM, List.foldlM_append]; rfl

def Looking (t : Tid) (k : K) (Seen : Option V → Prop) (s : St K V) : Prop :=
  RI top s.g ∧ RdInv top Seen s.g (s.r t) ∧ (s.r t).key = k

theorem looking_step (t : Tid) (k : K) (Seen : Option V → Prop) (s0 : St K V) (a : Act K V) (s1 : St K V)
    (hns : ∀ k', a ≠ Act.start t k') (h : Looking top t k Seen s0) (hs : step top s0 a = some s1) :
    ∃ Seen' : Option V → Prop, Looking top t k Seen' s1 ∧ ∀ v, Seen' v → Seen v ∨ v = content top s1.g k := by
  obtain ⟨ri, hinv, hkey⟩ := h
  cases a with
  | w ws =>
    simp only [step, Option.map_eq_some_iff] at hs
    obtain ⟨g', hg', rfl⟩ := hs
    have hw := wstep_WR top _ g' ws ri hg'
    have ri1 := ri_WR top hw ri
    exact ⟨fun v => Seen v ∨ v = content top g' k,
      ⟨ri1, rdInv_wstep top hw ri ri1 (fun _ => Or.inl) (s0.r t) (Or.inr (by rw [hkey])) hinv, hkey⟩, fun _ => id⟩
  | r u =>
    simp only [step, Option.some.injEq] at hs
    subst hs
    refine ⟨Seen, ⟨ri, ?_⟩, fun _ => Or.inl⟩
    dsimp only
    by_cases hu : t = u
    · subst hu; rw [if_pos rfl, rstep_key]; exact ⟨rdInv_rstep top s0.g (s0.r t) ri hinv, hkey⟩
    · rw [if_neg hu]; exact ⟨hinv, hkey⟩
  | start u k' =>
    simp only [step, Option.some.injEq] at hs
    subst hs
    have hu : ¬ t = u := fun e => hns k' (by rw [e])
    refine ⟨Seen, ⟨ri, ?_⟩, fun _ => Or.inl⟩
    dsimp only; rw [if_neg hu]; exact ⟨hinv, hkey⟩

theorem hindsight_from (t : Tid) (k : K) (mid : List (Act K V)) (s0 s : St K V)
    (hns : ∀ a ∈ mid, ∀ k', a ≠ Act.start t k') (ri : RI top s0.g)
    (hstart : s0.r t = { key := k, pc := .rdWord 0, result := none })
    (hrun : run top s0 mid = some s) (hdone : (s.r t).pc = .done) :
    ∃ j, j ≤ mid.length ∧ ∃ s', run top s0 (mid.take j) = some s' ∧ content top s'.g k = (s.r t).result := by
  simp only [run_eq_foldlM] at hrun ⊢
  obtain ⟨Seen, ⟨_, hinv, _⟩, hSeen⟩ := foldlM_hindsight (step top) (fun s => content top s.g k) (Looking top t k)
    (fun a => ∀ k', a ≠ Act.start t k') (looking_step top t k)
    mid (fun v => v = content top s0.g k) s0 s hns ⟨ri, hstart ▸ rdInv_start top s0.g k, by rw [hstart]⟩ hrun
  rcases hSeen _ (hinv.done top hdone) with h | h
  · exact ⟨0, Nat.zero_le _, s0, rfl, h.symm⟩
  · exact h

/-- **Reader hindsight**: the result returned by a lock-free lookup was the logical content of its key at some
instant between the start of the lookup and its end. -/
theorem reader_hindsight (k0 : K) (pre mid : List (Act K V)) (t : Tid) (k : K) (s : St K V)
    (hns : ∀ a ∈ mid, ∀ k', a ≠ Act.start t k')
    (hrun : run top (init k0) (pre ++ [Act.start t k] ++ mid) = some s)
    (hdone : (s.r t).pc = .done) :
    ∃ j, j ≤ mid.length ∧ ∃ s', run top (init k0) (pre ++ [Act.start t k] ++ mid.take j) = some s' ∧
      content top s'.g k = (s.r t).result := by
  rw [run_append, Option.bind_eq_some_iff] at hrun
  obtain ⟨s0, h0, hrun⟩ := hrun
  have hstart : s0.r t = { key := k, pc := .rdWord 0, result := none } := by
    rw [run_append, Option.bind_eq_some_iff] at h0
    obtain ⟨s1, _, h1⟩ := h0
    simp only [run, step, Option.some.injEq] at h1
    subst h1
    simp
  obtain ⟨j, hj, s', hrun', hc⟩ :=
    hindsight_from top t k mid s0 s hns (ri_run top _ _ s0 (ri_init top k0) h0) hstart hrun hdone
  exact ⟨j, hj, s', by rw [run_append, h0]; exact hrun', hc⟩

/-! ## bounded solo run -/

/-- upper bound on the number of solo steps left (`len` = number of buckets); per bucket `2 * S + 4` steps: the word,
per candidate (at most `S`) value and key, once the value again, the step leaving the loop, `next` -/
def mu (len : Nat) : RPc → Nat
  | .rdWord b => (2 * S + 4) * (len - (b + 1)) + (2 * S + 4)
  | .rdVal b cs => 2 * cs.length + 2 + (1 + (2 * S + 4) * (len - (b + 1)))
  | .rdKey b cs _ => 2 * cs.length + 1 + (1 + (2 * S + 4) * (len - (b + 1)))
  | .rdVal2 b _ _ => 1 + (1 + (2 * S + 4) * (len - (b + 1)))
  | .rdNext b => 1 + (2 * S + 4) * (len - (b + 1))
  | .done => 0

/-- in a solo run the value pointer held by the reader is the one in the slot -/
def SoloJ (g : G K V) : RPc → Prop
  | .rdKey b (i :: _) vp => vp = (getSlot g b i).valp
  | .rdVal2 b (i :: _) vp => (getSlot g b i).valp = some vp
  | _ => True

theorem candidates_length_le (bk : List Slot) (h : Nat) : (candidates bk h).length ≤ S := by
  unfold candidates
  refine Nat.le_trans (List.length_filter_le _ _) ?_
  simp

theorem mu_rstep (g : G K V) (l : RL K V) (hj : SoloJ g l.pc) :
    SoloJ g (rstep top g l).pc ∧
      (l.pc = .done ∨ mu g.buckets.length (rstep top g l).pc < mu g.buckets.length l.pc) := by
  obtain ⟨k, pc, res⟩ := l
  dsimp only at hj ⊢
  cases pc with
  | rdWord b =>
    simp only [rstep]
    refine ⟨trivial, Or.inr ?_⟩
    have := candidates_length_le (g.buckets.getD b []) (top k)
    simp only [mu, S] at this ⊢; omega
  | rdVal b cs =>
    cases cs with
    | nil => simp only [rstep]; exact ⟨trivial, Or.inr (by simp only [mu, S, List.length_nil]; omega)⟩
    | cons i rest => simp only [rstep]; exact ⟨rfl, Or.inr (by simp only [mu, S]; omega)⟩
  | rdKey b cs vp =>
    cases cs with
    | nil => simp only [rstep]; exact ⟨trivial, Or.inr (by simp only [mu, S, List.length_nil]; omega)⟩
    | cons i rest =>
      rcases rstep_rdKey top g k res b i rest vp with ⟨kp, vp', hk, rfl, hkey, hr⟩ | ⟨hno, hr⟩
      · rw [hr]; exact ⟨hj.symm, Or.inr (by simp only [mu, S, List.length_cons]; omega)⟩
      · rw [hr]; exact ⟨trivial, Or.inr (by simp only [mu, S, List.length_cons]; omega)⟩
  | rdVal2 b cs vp =>
    cases cs with
    | nil => simp only [rstep]; exact ⟨trivial, Or.inr (by simp only [mu, S]; omega)⟩
    | cons i rest =>
      have hv : (getSlot g b i).valp = some vp := hj
      simp only [rstep, hv, if_true]
      exact ⟨trivial, Or.inr (by simp only [mu, S]; omega)⟩
  | rdNext b =>
    simp only [rstep]
    split <;> exact ⟨trivial, Or.inr (by simp only [mu, S]; omega)⟩
  | done => exact ⟨trivial, Or.inl rfl⟩

theorem rstep_done (g : G K V) (l : RL K V) (h : l.pc = .done) : rstep top g l = l := by
  obtain ⟨k, pc, res⟩ := l
  cases h
  rfl

theorem solo_done (g : G K V) (n : Nat) (l : RL K V) (hj : SoloJ g l.pc) (hm : mu g.buckets.length l.pc ≤ n) :
    (soloReader top g l n).pc = .done := by
  rw [soloReader_eq_iter]
  exact iter_done (rstep top g) (fun l => SoloJ g l.pc) (fun l => l.pc = .done) (fun l => mu g.buckets.length l.pc)
    (fun l hj => (mu_rstep top g l hj).1) (fun l hj hd => (mu_rstep top g l hj).2.resolve_left hd)
    (rstep_done top g) n l hj hm

/-- **Bounded solo run**: from ANY global state (also with a half-done writer operation) a reader running alone
finishes its lookup within `(3 * S + 2) * (number of buckets + 1)` steps.  That is the bound `C03_solo_reader` states; it
is not tight: what `mu` gives at the start is `(2 * S + 4) * max (number of buckets) 1`, which is below it for `S = 3`. -/
theorem solo_terminates (g : G K V) (k : K) :
    ∃ n, n ≤ (3 * S + 2) * (g.buckets.length + 1) ∧
      (soloReader top g { key := k, pc := .rdWord 0, result := none } n).pc = .done := by
  refine ⟨(3 * S + 2) * (g.buckets.length + 1), Nat.le_refl _, ?_⟩
  apply solo_done top g _ { key := k, pc := .rdWord 0, result := none } trivial
  simp only [mu, S]; omega

theorem solo_result_any (g : G K V) (k : K) (ri : RI top g) (n : Nat)
    (hd : (soloReader top g { key := k, pc := .rdWord 0, result := none } n).pc = .done) :
    (soloReader top g { key := k, pc := .rdWord 0, result := none } n).result = content top g k := by
  rw [soloReader_eq_iter] at hd ⊢
  exact (iter_invariant (rstep top g) (RdInv top (fun v => v = content top g k) g)
    (fun l h => rdInv_rstep top g l ri h) n _ (rdInv_start top g k)).done top hd

/-- **Solo reader**: from any state satisfying the representation invariant (the writer stalled anywhere, also in the
middle of its micro-stores) the solo lookup finishes within the bound and returns the logical content. -/
theorem solo_reader (g : G K V) (k : K) (ri : RI top g) :
    ∃ n, n ≤ (3 * S + 2) * (g.buckets.length + 1) ∧
      (soloReader top g { key := k, pc := .rdWord 0, result := none } n).pc = .done ∧
      (soloReader top g { key := k, pc := .rdWord 0, result := none } n).result = content top g k := by
  obtain ⟨n, hn, hd⟩ := solo_terminates top g k
  exact ⟨n, hn, hd, solo_result_any top g k ri n hd⟩

set_option linter.unusedVariables false in
/-- `solo_reader` from a quiescent state (`hp` is not used) -/
theorem solo_result (g : G K V) (k : K) (ri : RI top g) (hp : g.pending = .none) :
    ∃ n, n ≤ (3 * S + 2) * (g.buckets.length + 1) ∧
      (soloReader top g { key := k, pc := .rdWord 0, result := none } n).pc = .done ∧
      (soloReader top g { key := k, pc := .rdWord 0, result := none } n).result = content top g k :=
  solo_reader top g k ri

end Proofs.SlotMapHindsight
