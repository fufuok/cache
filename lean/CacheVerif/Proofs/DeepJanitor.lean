import CacheVerif.Deep.Janitor
import CacheVerif.Generated.DeepCtor
import CacheVerif.Proofs.DeepSource
/-!
# The janitor goroutine of both files, as printed from the working tree, *is* "one `DeleteExpired` pass per tick"

For the goroutine and the finalizer `tools/go2deep` prints from `newXsyncMap` / `newXsyncMapOf` on every run.  The pass
of a tick is the step `.deleteExpired` of the cache model through `DeepSource.step`: the text of `DeleteExpired` itself.
-/
namespace DeepJanitor
open Deep Spec Model
variable {K V : Type} [DecidableEq K] [Inhabited V]

theorem exec_self_stmt (T : Twin K V) (m : String) (w : W K V) :
    execL T (FUEL + 3) [] [.exprS (.self m [])] w = (runMethod T FUEL m [] w).map fun r => (none, r.2) := by
  simp only [FUEL, execL, execS, evalE, evalArgs, runMethod]
  cases T.methods.lookup m with
  | none => rfl
  | some d => dsimp only; cases callDecl T 60 d [] [] w <;> rfl

theorem exec_return (T : Twin K V) (w : W K V) :
    execL T (FUEL + 3) [] [.ret []] w = some (some [], w) := by
  simp [execL, execS]

theorem runMethod_deleteExpired (T : Twin K V) (s : CSt K V) (p : CSt K V × Model.Res K V)
    (h : deepStep T s .deleteExpired = some p) :
    ∃ vs w, runMethod T FUEL "DeleteExpired" [] (ofSt s) = some (vs, w) ∧ stOf w = p.1 ∧ w.cbs = p.2.cbs := by
  simp only [deepStep, encode] at h
  split at h
  · cases h
  · rename_i vs w hrun
    split at h
    · rename_i out _
      simp only [Option.some.injEq] at h
      subst h
      exact ⟨vs, w, hrun, rfl, rfl⟩
    · cases h

/-- the configuration struct as the field valuation the guard is evaluated in -/
def fields (c : Gen.Config) : String → Int
  | "CleanupInterval" => c.cleanupInterval
  | "DefaultExpiration" => c.defaultExpiration
  | "MinCapacity" => c.minCapacity
  | _ => 0

section twin
/- the tick clause of the printed goroutine is named at `.tick 0`: `clauseFor` does not look at the `δ` of a tick -/
variable (T : Twin K V) (j : GoLoop) (fin : Finalizer) (hT : DeepSource.IsTwin T)
  (hj : j.clauseFor fin (.tick 0) = some [.exprS (.self "DeleteExpired" [])]) (hs : j.clauseFor fin .stop = some [.ret []])

section tick
include hT hj

/-- **a tick is one `DeleteExpired` pass** at the clock of the tick -/
theorem tick_is_pass (s : CSt K V) (δ : Int) :
    janitorEvent T j fin s (.tick δ) =
      some (false, (Model.Cache.step { s with now := s.now + δ } .deleteExpired).1,
        (Model.Cache.step { s with now := s.now + δ } .deleteExpired).2.cbs) := by
  have hj' : j.clauseFor fin (.tick δ) = some [.exprS (.self "DeleteExpired" [])] := hj
  obtain ⟨vs, w, hrun, hst, hcb⟩ := runMethod_deleteExpired T _ _ (DeepSource.step { s with now := s.now + δ } .deleteExpired T hT)
  simp only [janitorEvent, hj', exec_self_stmt]
  rw [hrun]
  simp only [Option.map_some, Option.isSome_none]
  rw [hst, hcb]

theorem run_tick (δ : Int) (evs : List JEv) (s : CSt K V) :
    janitorRun T j fin s (.tick δ :: evs) =
      (janitorRun T j fin (Model.Cache.step { s with now := s.now + δ } .deleteExpired).1 evs).map fun r =>
        (r.1, r.2.1, (Model.Cache.step { s with now := s.now + δ } .deleteExpired).2.cbs ++ r.2.2) := by
  simp only [janitorRun, tick_is_pass T j fin hT hj]
  cases janitorRun T j fin _ evs <;> rfl

end tick

section stop
include hs

/-- **the finalizer's event ends the goroutine** and touches nothing -/
theorem stop_returns (s : CSt K V) : janitorEvent T j fin s .stop = some (true, s, []) := by
  simp only [janitorEvent, hs, exec_return]
  rfl

theorem run_stop (evs : List JEv) (s : CSt K V) :
    janitorRun T j fin s (.stop :: evs) = some (true, s, []) := by
  simp only [janitorRun, stop_returns T j fin hs]

end stop

include hT hj hs

/-- any number of ticks, then the finalizer: the cache goes through exactly the `DeleteExpired` passes of the model, one
per tick at that tick's clock, the callbacks of all passes are delivered in order, and the goroutine has returned -/
theorem ticks_then_stop (δs : List Int) (s : CSt K V) :
    janitorRun T j fin s (δs.map .tick ++ [.stop]) =
      some (true,
        δs.foldl (fun s δ => (Model.Cache.step { s with now := s.now + δ } .deleteExpired).1) s,
        (δs.foldl (fun (acc : CSt K V × List (Nat × K × V)) δ =>
          ((Model.Cache.step { acc.1 with now := acc.1.now + δ } .deleteExpired).1,
           acc.2 ++ (Model.Cache.step { acc.1 with now := acc.1.now + δ } .deleteExpired).2.cbs)) (s, [])).2) := by
  -- with the callbacks `pre` of the passes before `s` in front of both sides
  suffices h : ∀ (δs : List Int) (s : CSt K V) (pre : List (Nat × K × V)),
      (janitorRun T j fin s (δs.map .tick ++ [.stop])).map (fun r => (r.1, r.2.1, pre ++ r.2.2)) =
      some (true,
        δs.foldl (fun s δ => (Model.Cache.step { s with now := s.now + δ } .deleteExpired).1) s,
        (δs.foldl (fun (acc : CSt K V × List (Nat × K × V)) δ =>
          ((Model.Cache.step { acc.1 with now := acc.1.now + δ } .deleteExpired).1,
           acc.2 ++ (Model.Cache.step { acc.1 with now := acc.1.now + δ } .deleteExpired).2.cbs)) (s, pre)).2) by
    simpa using h δs s []
  intro δs
  induction δs with
  | nil => intro s pre; simp [run_stop T j fin hs]
  | cons δ δs ih =>
    intro s pre
    simp only [List.map_cons, List.cons_append, run_tick T j fin hT hj, Option.map_map, List.foldl_cons, ← ih,
      Function.comp_def, List.append_assoc]

/-- **no pass after the finalizer**: whatever events follow the finalizer's, the goroutine has returned and receives
none of them -/
theorem nothing_after_stop (δs : List Int) (more : List JEv) (s : CSt K V) :
    janitorRun T j fin s (δs.map .tick ++ .stop :: more) = janitorRun T j fin s (δs.map .tick ++ [.stop]) := by
  induction δs generalizing s with
  | nil => simp only [List.map_nil, List.nil_append, run_stop T j fin hs]
  | cons δ δs ih => simp only [List.map_cons, List.cons_append, run_tick T j fin hT hj, ih]

end twin

theorem map_tick_clause : Gen.Deep.xsyncMap_janitor.clauseFor Gen.Deep.xsyncMap_finalizer (.tick 0) =
    some [.exprS (.self "DeleteExpired" [])] := by rfl
theorem map_stop_clause : Gen.Deep.xsyncMap_janitor.clauseFor Gen.Deep.xsyncMap_finalizer .stop = some [.ret []] := by rfl
theorem mapOf_tick_clause : Gen.Deep.xsyncMapOf_janitor.clauseFor Gen.Deep.xsyncMapOf_finalizer (.tick 0) =
    some [.exprS (.self "DeleteExpired" [])] := by rfl
theorem mapOf_stop_clause : Gen.Deep.xsyncMapOf_janitor.clauseFor Gen.Deep.xsyncMapOf_finalizer .stop = some [.ret []] := by rfl

/-- the goroutine is started iff the machine-translated guard of the constructor holds; its period is the interval -/
theorem map_started (c : Gen.Config) :
    Gen.Deep.xsyncMap_janitor.started (fields c) = some (Gen.newXsyncMap_janitor c) ∧
    Gen.Deep.xsyncMap_janitor.period (fields c) = some c.cleanupInterval := by
  constructor <;> rfl
theorem mapOf_started (c : Gen.Config) :
    Gen.Deep.xsyncMapOf_janitor.started (fields c) = some (Gen.newXsyncMapOf_janitor c) ∧
    Gen.Deep.xsyncMapOf_janitor.period (fields c) = some c.cleanupInterval := by
  constructor <;> rfl

/-- the goroutine does not keep the finalizer's object alive, and stops its ticker when it returns -/
theorem map_collectable : Gen.Deep.xsyncMap_finalizer.target ∉ Gen.Deep.xsyncMap_janitor.captures ∧
    Gen.Deep.xsyncMap_janitor.deferStop = true := by decide
theorem mapOf_collectable : Gen.Deep.xsyncMapOf_finalizer.target ∉ Gen.Deep.xsyncMapOf_janitor.captures ∧
    Gen.Deep.xsyncMapOf_janitor.deferStop = true := by decide

end DeepJanitor
