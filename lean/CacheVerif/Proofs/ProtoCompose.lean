import CacheVerif.Proofs.ProtoLin
/-!
# M4a ⊕ M4b: the one-step chain read of M4a may be any instant of the real multi-load scan

M4a reads a bucket chain in one step (`ldRead`).  The real lookup scans the chain with several atomic loads; M4b
(`Proofs.SlotMapHindsight.reader_hindsight`, `Proofs.SlotMapOfHindsight.reader_hindsight`) proves that such a scan returns the
logical content the chain had at *some instant during the scan*.  The scan begins after the table pointer has been
loaded, i.e. while the M4a thread sits at the read pc.  The M4a half of the composition: the binding of the key in the
loaded generation at **any** instant at which the thread is at the read pc - not only at the instant it finally takes
the step - is a legal answer for a lookup whose call covers the whole interval (it was the abstract binding at some
state of the interval, or is what a writer helped by a `Clear` in the interval left).  So replacing M4a's atomic chain
read by M4b's scan preserves the hindsight theorems C03/C04 rest on.  (What stays unmechanised: one combined transition
system.)
-/
namespace Proofs.ProtoCompose
open Spec Model.Proto Proofs.ProtoLocks Proofs.ProtoData Proofs.ProtoLin

variable {K V : Type} [DecidableEq K]

/-- **any instant of the scan**: `s1`, where `mid1` ends, is any state in which thread `t` is at the read pc (it arrived
there during `mid1`); `mid2` is whatever happens afterwards -/
theorem read_any_instant (p : Params K) (hmin : 0 < p.minLen) (pre mid1 mid2 : List (Tid × Choice K V)) (s0 s1 : St K V)
    (h0 : run p (init p) pre = some s0) (h1 : run p s0 mid1 = some s1) (t : Tid) (k : K)
    (hstart : (s0.l t).pc ≠ .ldRead) (hpc : (s1.l t).pc = .ldRead) :
    let v := (s1.g.tables (s1.l t).tbl).data.get k
    (∃ x ∈ trace p s0 (mid1 ++ mid2), absGet x.g k = v) ∨
    (∃ e ∈ events p s0 (mid1 ++ mid2), ∃ u f lie co, HelpAt e u k f lie co ∧ v = (specDc f lie co (absGet e.pre.g k)).1) := by
  intro v
  rcases read_hindsight p hmin pre mid1 s0 s1 h0 h1 t k hstart hpc with ⟨x, hx, h⟩ | ⟨e, he, h⟩
  · exact Or.inl ⟨x, trace_append_left h1 hx, h⟩
  · refine Or.inr ⟨e, ?_, h⟩
    rw [events_append h1]
    exact List.mem_append_left _ he

end Proofs.ProtoCompose
