import CacheVerif.Model.SlotMap
import CacheVerif.Proofs.SlotScheme
/-!
# M4b (Map): representation invariant of one bucket chain and its preservation by the writer's micro-steps

Every micro-step of the writer is an update of one slot (`SlotUpd`, `WR`, `wstep_WR`), so `RI` is kept if the step leaves
that slot and `pending` in order (`RI.of_slotUpd`, `ri_WR`).

The three files of the `Map` development (this one, `SlotMapReader`, `SlotMapHindsight`) share the namespace
`Proofs.SlotMapHindsight`.  The head of `Proofs/SlotScheme.lean` says how the names here correspond to those of the
`MapOf` development.
-/
set_option linter.unusedSectionVars false
namespace Proofs.SlotMapHindsight
open Model.SlotMap Proofs.SlotScheme Proofs.Runs

variable {K V : Type} [DecidableEq K] (top : K → Nat)

/-- `omega` that sees through the abbreviation `Ptr := Nat` -/
macro "pomega" : tactic => `(tactic| ((try simp only [Ptr] at *); omega))

/-! ## reading a slot -/

theorem getSlot_ge_len (g : G K V) (b i : Nat) (h : g.buckets.length ≤ b) : getSlot g b i = Slot.free := by
  unfold getSlot; rw [getD_of_le h]; rfl

theorem bucket_length (g : G K V) (hS : ∀ bk ∈ g.buckets, bk.length = S) (b : Nat) (hb : b < g.buckets.length) :
    (g.buckets.getD b []).length = S := hS _ (getD_mem _ hb)

theorem getSlot_off_grid (g : G K V) (hS : ∀ bk ∈ g.buckets, bk.length = S) {b i : Nat}
    (h : ¬(b < g.buckets.length ∧ i < S)) : getSlot g b i = Slot.free := by
  by_cases hb : b < g.buckets.length
  · exact getD_of_le (by rw [bucket_length g hS b hb]; omega)
  · exact getSlot_ge_len g b i (by omega)

theorem present_inRange (g : G K V) (b i : Nat) (hS : ∀ bk ∈ g.buckets, bk.length = S)
    (h : (getSlot g b i).present = true) : b < g.buckets.length ∧ i < S :=
  Classical.byContradiction fun hn => by rw [getSlot_off_grid g hS hn] at h; cases h

theorem getSlot_init (k0 : K) (b i : Nat) : getSlot (init (V := V) k0).g b i = Slot.free := by
  cases b with
  | zero => exact getD_replicate S i
  | succ b => rfl

/-! ## slot level view of a state change -/

structure SlotUpd (g g' : G K V) (b i : Nat) (s' : Slot) : Prop where
  at_ : getSlot g' b i = s'
  other : ∀ b' i', ¬(b' = b ∧ i' = i) → getSlot g' b' i' = getSlot g b' i'
  len : g.buckets.length ≤ g'.buckets.length
  lenS : (∀ bk ∈ g.buckets, bk.length = S) → ∀ bk ∈ g'.buckets, bk.length = S

theorem getSlot_setSlot (g : G K V) (b i : Nat) (f : Slot → Slot) (b' i' : Nat) :
    getSlot (setSlot g b i f) b' i' =
      if (b = b' ∧ b' < g.buckets.length) ∧ i = i' ∧ i' < (g.buckets.getD b' []).length then f (getSlot g b' i')
      else getSlot g b' i' := by
  unfold getSlot setSlot
  rw [getD_modify]
  split
  · next hc => exact (getD_modify _ _ _).trans (by simp only [hc, and_self, true_and])
  · next hc => exact (if_neg fun h => hc h.1).symm

theorem slotUpd_setSlot {g g' : G K V} {b i : Nat} {f : Slot → Slot} {s' : Slot}
    (hg' : g'.buckets = (setSlot g b i f).buckets) (hs' : s' = f (getSlot g b i))
    (hb : b < g.buckets.length) (hi : i < S) (hS : ∀ bk ∈ g.buckets, bk.length = S) : SlotUpd g g' b i s' := by
  subst hs'
  have hget : ∀ b' i', getSlot g' b' i' = getSlot (setSlot g b i f) b' i' := fun b' i' => by unfold getSlot; rw [hg']
  refine ⟨?_, fun b' i' hne => ?_, ?_, fun _ => ?_⟩
  · rw [hget, getSlot_setSlot, if_pos ⟨⟨rfl, hb⟩, rfl, by rw [bucket_length g hS b hb]; exact hi⟩]
  · rw [hget, getSlot_setSlot, if_neg fun h => hne ⟨h.1.1.symm, h.2.1.symm⟩]
  · rw [hg']; simp [setSlot]
  · rw [hg']
    exact forall_mem_modify (fun bk h => by rw [List.length_modify]; exact h) hS

theorem slotUpd_append {g g' : G K V} {s0 : Slot}
    (hg' : g'.buckets = g.buckets ++ [s0 :: List.replicate (S - 1) Slot.free]) :
    SlotUpd g g' g.buckets.length 0 s0 := by
  have hget : ∀ b' i', getSlot g' b' i' =
      if b' = g.buckets.length then (s0 :: List.replicate (S - 1) Slot.free).getD i' Slot.free else getSlot g b' i' := by
    intro b' i'
    unfold getSlot
    rw [hg', getD_append_singleton]
    split <;> rfl
  refine ⟨?_, fun b' i' hne => ?_, ?_, fun hS bk hbk => ?_⟩
  · rw [hget, if_pos rfl]; rfl
  · rw [hget]
    split
    · next hb' =>
      subst hb'
      rw [getD_cons_replicate, if_neg fun e => hne ⟨rfl, e⟩, getSlot_ge_len g _ _ (Nat.le_refl _)]
    · rfl
  · rw [hg']; simp
  · rw [hg', List.mem_append, List.mem_singleton] at hbk
    rcases hbk with hbk | rfl
    · exact hS bk hbk
    · simp [S]

/-! ## `slotHolds` and `content` -/

theorem slotHolds_eq_some_iff (g : G K V) (b i : Nat) (k : K) (v : V) :
    slotHolds top g b i k = some v ↔
      ∃ kp vp, (getSlot g b i).keyp = some kp ∧ (getSlot g b i).valp = some vp ∧ g.keyHeap kp = some k ∧
        g.valHeap vp = some v ∧ (getSlot g b i).present = true ∧ (getSlot g b i).top = top k := by
  dsimp only [slotHolds]
  cases (getSlot g b i).keyp <;> cases (getSlot g b i).valp <;> try simp
  rename_i kp vp
  cases g.keyHeap kp <;> cases g.valHeap vp <;> try simp
  constructor
  · rintro ⟨⟨h1, h2, rfl⟩, rfl⟩; exact ⟨rfl, rfl, h1, h2⟩
  · rintro ⟨rfl, rfl, h1, h2⟩; exact ⟨⟨h1, h2, rfl⟩, rfl⟩

theorem slotHolds_ne_none_iff (g : G K V) (b i : Nat) (k : K) :
    slotHolds top g b i k ≠ none ↔
      ∃ v kp vp, (getSlot g b i).keyp = some kp ∧ (getSlot g b i).valp = some vp ∧ g.keyHeap kp = some k ∧
        g.valHeap vp = some v ∧ (getSlot g b i).present = true ∧ (getSlot g b i).top = top k :=
  Option.ne_none_iff_exists'.trans (exists_congr fun v => slotHolds_eq_some_iff top g b i k v)

theorem slotHolds_none_of_keyp {g : G K V} {b i : Nat} (k : K) (h : (getSlot g b i).keyp = none) :
    slotHolds top g b i k = none := by
  unfold slotHolds; simp [h]

theorem slotHolds_none_of_valp {g : G K V} {b i : Nat} (k : K) (h : (getSlot g b i).valp = none) :
    slotHolds top g b i k = none := by
  unfold slotHolds; simp [h]

theorem slotHolds_none_of_present {g : G K V} {b i : Nat} (k : K) (h : (getSlot g b i).present = false) :
    slotHolds top g b i k = none :=
  Classical.not_not.mp fun hn => by
    obtain ⟨_, _, _, _, _, _, _, h5, _⟩ := (slotHolds_ne_none_iff top g b i k).mp hn
    rw [h] at h5; cases h5

theorem slotHolds_free (g : G K V) (b i : Nat) (k : K) (h : getSlot g b i = Slot.free) :
    slotHolds top g b i k = none :=
  slotHolds_none_of_keyp top k (by rw [h]; rfl)

def absent (g : G K V) (k : K) : Prop := ∀ b i, slotHolds top g b i k = none

theorem slotHolds_off_grid (g : G K V) (hS : ∀ bk ∈ g.buckets, bk.length = S) (k : K) (b i : Nat)
    (h : ¬(b < g.buckets.length ∧ i < S)) : slotHolds top g b i k = none :=
  slotHolds_free top g b i k (getSlot_off_grid g hS h)

theorem content_none_iff (g : G K V) (k : K) (hS : ∀ bk ∈ g.buckets, bk.length = S) :
    content top g k = none ↔ absent top g k :=
  grid_findSome_none_iff (fun b i => slotHolds top g b i k) (slotHolds_off_grid top g hS k)

def uniqHolder (g : G K V) : Prop :=
  ∀ k b i b' i', slotHolds top g b i k ≠ none → slotHolds top g b' i' k ≠ none → b = b' ∧ i = i'

theorem content_some_of_holds (g : G K V) (hS : ∀ bk ∈ g.buckets, bk.length = S) (hu : uniqHolder top g)
    {b i : Nat} {k : K} {v : V} (h : slotHolds top g b i k = some v) : content top g k = some v :=
  grid_findSome_eq_of_holds (fun b i => slotHolds top g b i k) (slotHolds_off_grid top g hS k) (hu k) h

/-! ## the representation invariant -/

/-- a value pointer that has been (or is) stored in a slot: allocated, and not the not-yet-stored cell of a
pending insert -/
def vpOK (g : G K V) (vp : Ptr) : Prop := vp < g.nextPtr ∧ ∀ b i kp, g.pending ≠ .insVal b i kp vp

/-- the exact partial states allowed for the slot of the writer's half-done operation -/
def PendOK (g : G K V) : Prop :=
  match g.pending with
  | .none => True
  | .insVal b i kp vp =>
    b < g.buckets.length ∧ i < S ∧ (getSlot g b i).keyp = none ∧ (getSlot g b i).valp = none ∧
      (getSlot g b i).present = true ∧ kp < g.nextPtr ∧ vp < g.nextPtr ∧
      ∃ k v, g.keyHeap kp = some k ∧ g.valHeap vp = some v ∧ (getSlot g b i).top = top k ∧ absent top g k
  | .insKey b i kp =>
    b < g.buckets.length ∧ i < S ∧ (getSlot g b i).keyp = none ∧ (getSlot g b i).valp.isSome ∧
      (getSlot g b i).present = true ∧ kp < g.nextPtr ∧
      ∃ k, g.keyHeap kp = some k ∧ (getSlot g b i).top = top k ∧ absent top g k
  | .delVal b i =>
    b < g.buckets.length ∧ i < S ∧ (getSlot g b i).present = false ∧ (getSlot g b i).keyp.isSome ∧
      (getSlot g b i).valp.isSome
  | .delKey b i =>
    b < g.buckets.length ∧ i < S ∧ (getSlot g b i).present = false ∧ (getSlot g b i).keyp.isSome ∧
      (getSlot g b i).valp = none

structure RI (g : G K V) : Prop where
  lenS : ∀ bk ∈ g.buckets, bk.length = S
  kptr : ∀ b i p, (getSlot g b i).keyp = some p → p < g.nextPtr ∧ (g.keyHeap p).isSome
  vptr : ∀ b i p, (getSlot g b i).valp = some p → vpOK g p ∧ (g.valHeap p).isSome
  uniq : uniqHolder top g
  topOK : ∀ b i kp k, (getSlot g b i).present = true → (getSlot g b i).keyp = some kp → g.keyHeap kp = some k →
    (getSlot g b i).top = top k
  pend : PendOK top g

def HeapMono (g g' : G K V) : Prop :=
  g.nextPtr ≤ g'.nextPtr ∧ ∀ p, p < g.nextPtr → g'.keyHeap p = g.keyHeap p ∧ g'.valHeap p = g.valHeap p

inductive WR (g g' : G K V) : Prop
  | insWord (b i : Nat) (k : K) (v : V)
      (hp : g.pending = .none) (hb : b < g.buckets.length) (hi : i < S)
      (hk : (getSlot g b i).keyp = none) (hv : (getSlot g b i).valp = none)
      (hpr : (getSlot g b i).present = false) (hc : content top g k = none)
      (upd : SlotUpd g g' b i { getSlot g b i with present := true, top := top k })
      (kh : g'.keyHeap = fun p => if p = g.nextPtr then some k else g.keyHeap p)
      (vh : g'.valHeap = fun p => if p = g.nextPtr + 1 then some v else g.valHeap p)
      (np : g'.nextPtr = g.nextPtr + 2) (pd : g'.pending = .insVal b i g.nextPtr (g.nextPtr + 1))
  | finInsVal (b i : Nat) (kp vp : Ptr) (hp : g.pending = .insVal b i kp vp)
      (upd : SlotUpd g g' b i { getSlot g b i with valp := some vp })
      (kh : g'.keyHeap = g.keyHeap) (vh : g'.valHeap = g.valHeap) (np : g'.nextPtr = g.nextPtr)
      (pd : g'.pending = .insKey b i kp)
  | finInsKey (b i : Nat) (kp : Ptr) (hp : g.pending = .insKey b i kp)
      (upd : SlotUpd g g' b i { getSlot g b i with keyp := some kp })
      (kh : g'.keyHeap = g.keyHeap) (vh : g'.valHeap = g.valHeap) (np : g'.nextPtr = g.nextPtr)
      (pd : g'.pending = .none)
  | finDelVal (b i : Nat) (hp : g.pending = .delVal b i)
      (upd : SlotUpd g g' b i { getSlot g b i with valp := none })
      (kh : g'.keyHeap = g.keyHeap) (vh : g'.valHeap = g.valHeap) (np : g'.nextPtr = g.nextPtr)
      (pd : g'.pending = .delKey b i)
  | finDelKey (b i : Nat) (hp : g.pending = .delKey b i)
      (upd : SlotUpd g g' b i { getSlot g b i with keyp := none })
      (kh : g'.keyHeap = g.keyHeap) (vh : g'.valHeap = g.valHeap) (np : g'.nextPtr = g.nextPtr)
      (pd : g'.pending = .none)
  | delWord (b i : Nat) (hp : g.pending = .none) (hb : b < g.buckets.length) (hi : i < S)
      (hpr : (getSlot g b i).present = true) (hk : (getSlot g b i).keyp.isSome) (hv : (getSlot g b i).valp.isSome)
      (upd : SlotUpd g g' b i { getSlot g b i with present := false })
      (kh : g'.keyHeap = g.keyHeap) (vh : g'.valHeap = g.valHeap) (np : g'.nextPtr = g.nextPtr)
      (pd : g'.pending = .delVal b i)
  | update (b i : Nat) (v : V) (hp : g.pending = .none) (hb : b < g.buckets.length) (hi : i < S)
      (hpr : (getSlot g b i).present = true) (hk : (getSlot g b i).keyp.isSome) (hv : (getSlot g b i).valp.isSome)
      (upd : SlotUpd g g' b i { getSlot g b i with valp := some g.nextPtr })
      (kh : g'.keyHeap = g.keyHeap)
      (vh : g'.valHeap = fun p => if p = g.nextPtr then some v else g.valHeap p)
      (np : g'.nextPtr = g.nextPtr + 1) (pd : g'.pending = .none)
  | append (k : K) (v : V) (hp : g.pending = .none) (hc : content top g k = none)
      (upd : SlotUpd g g' g.buckets.length 0
        { present := true, top := top k, keyp := some g.nextPtr, valp := some (g.nextPtr + 1) })
      (len : g'.buckets.length = g.buckets.length + 1)
      (kh : g'.keyHeap = fun p => if p = g.nextPtr then some k else g.keyHeap p)
      (vh : g'.valHeap = fun p => if p = g.nextPtr + 1 then some v else g.valHeap p)
      (np : g'.nextPtr = g.nextPtr + 2) (pd : g'.pending = .none)

def pendSlot : Pending → Option (Nat × Nat)
  | .none => none
  | .insVal b i _ _ => some (b, i)
  | .insKey b i _ => some (b, i)
  | .delVal b i => some (b, i)
  | .delKey b i => some (b, i)

theorem PendOK.inRange {g : G K V} (h : PendOK top g) {b i : Nat} (hp : pendSlot g.pending = some (b, i)) :
    b < g.buckets.length ∧ i < S := by
  unfold PendOK at h
  cases hpd : g.pending <;> rw [hpd] at h hp <;> cases hp <;> exact ⟨h.1, h.2.1⟩

theorem wstep_WR (g g' : G K V) (ws : WStep K V) (ri : RI top g) (h : wstep top g ws = some g') : WR top g g' := by
  cases ws with
  | insWord b i k v =>
    simp only [wstep, Option.ite_none_right_eq_some, Option.some.injEq] at h
    obtain ⟨⟨hp, hb, hi, hk, hv, hpr, hc⟩, rfl⟩ := h
    exact .insWord b i k v hp hb hi hk hv hpr (by simpa using hc) (slotUpd_setSlot rfl rfl hb hi ri.lenS) rfl rfl rfl rfl
  | finish =>
    have upd : ∀ {b i f g' s'}, pendSlot g.pending = some (b, i) → g'.buckets = (setSlot g b i f).buckets →
        s' = f (getSlot g b i) → SlotUpd g g' b i s' :=
      fun hp hg' hs' => slotUpd_setSlot hg' hs' (ri.pend.inRange top hp).1 (ri.pend.inRange top hp).2 ri.lenS
    simp only [wstep] at h
    split at h
    · next b i kp vp hp => cases h; exact .finInsVal b i kp vp hp (upd (congrArg pendSlot hp) rfl rfl) rfl rfl rfl rfl
    · next b i kp hp => cases h; exact .finInsKey b i kp hp (upd (congrArg pendSlot hp) rfl rfl) rfl rfl rfl rfl
    · next b i hp => cases h; exact .finDelVal b i hp (upd (congrArg pendSlot hp) rfl rfl) rfl rfl rfl rfl
    · next b i hp => cases h; exact .finDelKey b i hp (upd (congrArg pendSlot hp) rfl rfl) rfl rfl rfl rfl
    · cases h
  | delWord b i =>
    simp only [wstep, Option.ite_none_right_eq_some, Option.some.injEq] at h
    obtain ⟨⟨hp, hpr, hk, hv⟩, rfl⟩ := h
    obtain ⟨hb, hi⟩ := present_inRange g b i ri.lenS hpr
    exact .delWord b i hp hb hi hpr hk hv (slotUpd_setSlot rfl rfl hb hi ri.lenS) rfl rfl rfl rfl
  | update b i v =>
    simp only [wstep, Option.ite_none_right_eq_some, Option.some.injEq] at h
    obtain ⟨⟨hp, hpr, hk, hv⟩, rfl⟩ := h
    obtain ⟨hb, hi⟩ := present_inRange g b i ri.lenS hpr
    exact .update b i v hp hb hi hpr hk hv (slotUpd_setSlot rfl rfl hb hi ri.lenS) rfl rfl rfl hp
  | append k v =>
    simp only [wstep, Option.ite_none_right_eq_some, Option.some.injEq] at h
    obtain ⟨⟨hp, hc⟩, rfl⟩ := h
    exact .append k v hp (by simpa using hc) (slotUpd_append rfl) (by simp) rfl rfl rfl hp

/-! ## preservation -/

theorem WR.heapMono {g g' : G K V} (h : WR top g g') : HeapMono g g' := by
  unfold HeapMono
  cases h with
  | insWord b i k v hp hb hi hk hv hpr hc upd kh vh np pd =>
    refine ⟨by pomega, fun p hlt => ?_⟩
    rw [kh, vh]; simp [Nat.ne_of_lt hlt, show p ≠ g.nextPtr + 1 by pomega]
  | update b i v hp hb hi hpr hk hv upd kh vh np pd =>
    refine ⟨by pomega, fun p hlt => ?_⟩
    rw [kh, vh]; simp [Nat.ne_of_lt hlt]
  | append k v hp hc upd len kh vh np pd =>
    refine ⟨by pomega, fun p hlt => ?_⟩
    rw [kh, vh]; simp [Nat.ne_of_lt hlt, show p ≠ g.nextPtr + 1 by pomega]
  | _ =>
    -- the other steps allocate nothing
    rename_i kh vh np pd
    rw [kh, vh, np]; exact ⟨Nat.le_refl _, fun _ _ => ⟨rfl, rfl⟩⟩

theorem WR.slotUpd {g g' : G K V} (h : WR top g g') : ∃ b i s', SlotUpd g g' b i s' := by
  cases h <;> exact ⟨_, _, _, by assumption⟩

theorem vpOK_step {g g' : G K V} (h : WR top g g') (p : Ptr) (hv : vpOK g p) : vpOK g' p := by
  obtain ⟨h1, h2⟩ := hv
  have hm := (h.heapMono).1
  refine ⟨by pomega, fun b' i' kp' => ?_⟩
  cases h with
  | insWord b i k v hp hb hi hk hv hpr hc upd kh vh np pd => rw [pd]; intro e; injection e; pomega
  | _ =>
    -- no other step leaves an `insVal` pending
    rename_i pd
    rw [pd]; intro e; cases e

/-- the clauses of `RI` that speak of one slot value at a time -/
structure SlotOK (g : G K V) (s : Slot) : Prop where
  kptr : ∀ p, s.keyp = some p → p < g.nextPtr ∧ (g.keyHeap p).isSome
  vptr : ∀ p, s.valp = some p → vpOK g p ∧ (g.valHeap p).isSome
  topOK : ∀ kp k, s.present = true → s.keyp = some kp → g.keyHeap kp = some k → s.top = top k

theorem RI.slotOK {g : G K V} (ri : RI top g) (b i : Nat) : SlotOK top g (getSlot g b i) :=
  ⟨ri.kptr b i, ri.vptr b i, ri.topOK b i⟩

theorem SlotOK.step {g g' : G K V} {s : Slot} (h : SlotOK top g s) (hw : WR top g g') : SlotOK top g' s := by
  have hm := hw.heapMono
  refine ⟨fun p hp => ?_, fun p hp => ?_, fun kp k h1 h2 h3 => ?_⟩
  · have := h.kptr p hp
    exact ⟨Nat.lt_of_lt_of_le this.1 hm.1, by rw [(hm.2 p this.1).1]; exact this.2⟩
  · have := h.vptr p hp
    exact ⟨vpOK_step top hw p this.1, by rw [(hm.2 p this.1.1).2]; exact this.2⟩
  · rw [(hm.2 kp (h.kptr kp h2).1).1] at h3
    exact h.topOK kp k h1 h2 h3

theorem slotHolds_other {g g' : G K V} {b i : Nat} {s' : Slot} (upd : SlotUpd g g' b i s') (hm : HeapMono g g')
    (ri : RI top g) (k : K) (b' i' : Nat) (hne : ¬(b' = b ∧ i' = i)) :
    slotHolds top g' b' i' k = slotHolds top g b' i' k := by
  unfold slotHolds
  simp only [upd.other b' i' hne]
  cases hk : (getSlot g b' i').keyp with
  | none => rfl
  | some kp =>
    cases hv : (getSlot g b' i').valp with
    | none => rfl
    | some vp =>
      dsimp only
      rw [(hm.2 kp (ri.kptr b' i' kp hk).1).1, (hm.2 vp (ri.vptr b' i' vp hv).1.1).2]

theorem absent_step {g g' : G K V} {b i : Nat} {s' : Slot} (upd : SlotUpd g g' b i s') (hm : HeapMono g g')
    (ri : RI top g) (k : K) (ha : absent top g k) (hn : slotHolds top g' b i k = none) : absent top g' k :=
  forall_slots hn fun b' i' he => by rw [slotHolds_other top upd hm ri k b' i' he]; exact ha b' i'

theorem RI.of_slotUpd {g g' : G K V} {b i : Nat} {s' : Slot} (ri : RI top g) (hw : WR top g g')
    (upd : SlotUpd g g' b i s') (hs : SlotOK top g' s')
    (hfresh : ∀ k, slotHolds top g' b i k ≠ none → ∀ b' i', ¬(b' = b ∧ i' = i) → slotHolds top g b' i' k = none)
    (hp : PendOK top g') : RI top g' := by
  have hall : ∀ b' i', SlotOK top g' (getSlot g' b' i') :=
    forall_slots (by rw [upd.at_]; exact hs) fun b' i' he => by
      rw [upd.other b' i' he]; exact (ri.slotOK top b' i').step top hw
  exact ⟨upd.lenS ri.lenS, fun b i => (hall b i).kptr, fun b i => (hall b i).vptr,
    fun k => uniq_store (slotHolds_other top upd hw.heapMono ri k) (ri.uniq k) (hfresh k),
    fun b i => (hall b i).topOK, hp⟩

theorem PendOK.of_none {g : G K V} (h : g.pending = .none) : PendOK top g := by
  unfold PendOK; rw [h]; trivial

theorem ri_WR {g g' : G K V} (h : WR top g g') (ri : RI top g) : RI top g' := by
  have hw := h
  have hm := h.heapMono
  have hpend := ri.pend
  unfold PendOK at hpend
  have so : ∀ b i, SlotOK top g' (getSlot g b i) := fun b i => (ri.slotOK top b i).step top hw
  have vp_ok : ∀ p, p < g'.nextPtr → (∀ b i kp vp, g'.pending ≠ .insVal b i kp vp) → vpOK g' p :=
    fun p hlt hp => ⟨hlt, fun b i kp => hp b i kp p⟩
  have empty : ∀ {b i}, (∀ k, slotHolds top g' b i k = none) →
      ∀ k, slotHolds top g' b i k ≠ none → ∀ b' i', ¬(b' = b ∧ i' = i) → slotHolds top g b' i' k = none :=
    fun hn k hh => absurd (hn k) hh
  cases h with
  | insWord b i k v hp hb hi hk hv hpr hc upd kh vh np pd =>
    have hn : ∀ k', slotHolds top g' b i k' = none := fun k' => slotHolds_none_of_keyp top k' (by rw [upd.at_]; exact hk)
    refine ri.of_slotUpd top hw upd ⟨(so b i).kptr, (so b i).vptr, fun _ _ _ h2 => by rw [hk] at h2; cases h2⟩
      (empty hn) ?_
    unfold PendOK; simp only [pd]; rw [upd.at_]
    exact ⟨Nat.lt_of_lt_of_le hb upd.len, hi, hk, hv, rfl, by pomega, by pomega, k, v, by rw [kh]; simp,
      by rw [vh]; simp, rfl, absent_step top upd hm ri k ((content_none_iff top g k ri.lenS).mp hc) (hn k)⟩
  | finInsVal b i kp vp hp upd kh vh np pd =>
    rw [hp] at hpend
    obtain ⟨hb, hi, hk, hv, hpr, hkp, hvp, k, v, hkk, hvv, htop, hab⟩ := hpend
    have hn : ∀ k', slotHolds top g' b i k' = none := fun k' => slotHolds_none_of_keyp top k' (by rw [upd.at_]; exact hk)
    refine ri.of_slotUpd top hw upd ⟨(so b i).kptr, fun p hp' => ?_, fun _ _ _ h2 => by rw [hk] at h2; cases h2⟩
      (empty hn) ?_
    · cases hp'
      exact ⟨vp_ok _ (Nat.lt_of_lt_of_le hvp hm.1) (by rw [pd]; intro _ _ _ _ e; cases e), by rw [vh, hvv]; rfl⟩
    · unfold PendOK; simp only [pd]; rw [upd.at_]
      exact ⟨Nat.lt_of_lt_of_le hb upd.len, hi, hk, rfl, hpr, Nat.lt_of_lt_of_le hkp hm.1, k, by rw [kh]; exact hkk, htop,
        absent_step top upd hm ri k hab (hn k)⟩
  | finInsKey b i kp hp upd kh vh np pd =>
    rw [hp] at hpend
    obtain ⟨hb, hi, hk, hv, hpr, hkp, k, hkk, htop, hab⟩ := hpend
    refine ri.of_slotUpd top hw upd ⟨fun p hp' => ?_, (so b i).vptr, fun kp' k' _ h2 h3 => ?_⟩
      (fun k' hh b' i' _ => ?_) (.of_none top pd)
    · cases hp'
      exact ⟨Nat.lt_of_lt_of_le hkp hm.1, by rw [kh, hkk]; rfl⟩
    · cases h2
      rw [kh, hkk] at h3; cases h3; exact htop
    · -- the key the slot comes to hold is the pending one, which no slot held
      obtain ⟨_, kp', _, h1, _, h3, _⟩ := (slotHolds_ne_none_iff top g' b i k').mp hh
      rw [upd.at_] at h1; cases h1
      rw [kh, hkk] at h3; cases h3
      exact hab b' i'
  | finDelVal b i hp upd kh vh np pd =>
    rw [hp] at hpend
    obtain ⟨hb, hi, hpr, hk, hv⟩ := hpend
    refine ri.of_slotUpd top hw upd
      ⟨(so b i).kptr, fun _ hp' => (nomatch hp'), fun _ _ h1 => by rw [hpr] at h1; cases h1⟩
      (empty fun k' => slotHolds_none_of_valp top k' (by rw [upd.at_])) ?_
    unfold PendOK; simp only [pd]; rw [upd.at_]
    exact ⟨Nat.lt_of_lt_of_le hb upd.len, hi, hpr, hk, rfl⟩
  | finDelKey b i hp upd kh vh np pd =>
    exact ri.of_slotUpd top hw upd ⟨fun _ hp' => (nomatch hp'), (so b i).vptr, fun _ _ _ h2 => (nomatch h2)⟩
      (empty fun k' => slotHolds_none_of_keyp top k' (by rw [upd.at_])) (.of_none top pd)
  | delWord b i hp hb hi hpr hk hv upd kh vh np pd =>
    refine ri.of_slotUpd top hw upd ⟨(so b i).kptr, (so b i).vptr, fun _ _ h1 => (nomatch h1)⟩
      (empty fun k' => slotHolds_none_of_present top k' (by rw [upd.at_])) ?_
    unfold PendOK; simp only [pd]; rw [upd.at_]
    exact ⟨Nat.lt_of_lt_of_le hb upd.len, hi, rfl, hk, hv⟩
  | update b i v hp hb hi hpr hk hv upd kh vh np pd =>
    refine ri.of_slotUpd top hw upd ⟨(so b i).kptr, fun p hp' => ?_, (so b i).topOK⟩
      (fun k' hh b' i' hne => ?_) (.of_none top pd)
    · cases hp'
      exact ⟨vp_ok _ (by pomega) (by rw [pd]; intro _ _ _ _ e; cases e), by rw [vh]; simp⟩
    · -- the slot held the key before, with its old value, and a key has one holder
      obtain ⟨_, kp, _, h1, _, h3, _, h5, h6⟩ := (slotHolds_ne_none_iff top g' b i k').mp hh
      rw [upd.at_] at h1 h5 h6
      obtain ⟨vp0, hvp0⟩ := Option.isSome_iff_exists.mp hv
      obtain ⟨v0, hv0⟩ := Option.isSome_iff_exists.mp (ri.vptr b i vp0 hvp0).2
      rw [kh] at h3
      exact Classical.not_not.mp fun hx => hne (ri.uniq k' b' i' b i hx
        ((slotHolds_ne_none_iff top g b i k').mpr ⟨v0, kp, vp0, h1, hvp0, h3, hv0, h5, h6⟩))
  | append k v hp hc upd len kh vh np pd =>
    refine ri.of_slotUpd top hw upd ⟨fun p hp' => ?_, fun p hp' => ?_, fun kp' k' _ h2 h3 => ?_⟩
      (fun k' hh b' i' _ => ?_) (.of_none top pd)
    · cases hp'
      exact ⟨by pomega, by rw [kh]; simp⟩
    · cases hp'
      exact ⟨vp_ok _ (by pomega) (by rw [pd]; intro _ _ _ _ e; cases e), by rw [vh]; simp⟩
    · cases h2
      rw [kh] at h3; simp only [if_true, Option.some.injEq] at h3; subst h3; rfl
    · -- the key of the new bucket was absent
      obtain ⟨_, kp', _, h1, _, h3, _⟩ := (slotHolds_ne_none_iff top g' _ _ k').mp hh
      rw [upd.at_] at h1; cases h1
      rw [kh] at h3; simp only [if_true, Option.some.injEq] at h3; subst h3
      exact (content_none_iff top g k ri.lenS).mp hc b' i'

theorem ri_wstep (g g' : G K V) (ws : WStep K V) (ri : RI top g) (h : wstep top g ws = some g') : RI top g' :=
  ri_WR top (wstep_WR top g g' ws ri h) ri

theorem ri_init (k0 : K) : RI top (init (V := V) k0).g := by
  have hfree := getSlot_init (V := V) k0
  refine ⟨?_, ?_, ?_, ?_, ?_, ?_⟩
  · intro bk hbk; simp [init] at hbk; subst hbk; simp
  · intro b i p hp; rw [hfree] at hp; cases hp
  · intro b i p hp; rw [hfree] at hp; cases hp
  · intro k b i b' i' h; exact absurd (slotHolds_free top _ b i k (hfree b i)) h
  · intro b i kp k h; rw [hfree] at h; cases h
  · unfold PendOK; simp [init]

/-! ## runs -/

theorem run_eq_foldlM (as : List (Act K V)) (s : St K V) : run top s as = as.foldlM (step top) s :=
  eq_foldlM _ (run top) (fun _ => rfl) (fun s a as => by rw [run]; cases step top s a <;> rfl) as s

theorem run_invariant (P : G K V → Prop) (hw : ∀ g ws g', P g → wstep top g ws = some g' → P g')
    (as : List (Act K V)) (s s' : St K V) (h : P s.g) (hr : run top s as = some s') : P s'.g := by
  refine foldlM_invariant (step top) (fun s => P s.g) as (fun a _ s s' h hs => ?_) s s' h (run_eq_foldlM top as s ▸ hr)
  cases a with
  | w ws =>
    simp only [step, Option.map_eq_some_iff] at hs
    obtain ⟨g', hg', rfl⟩ := hs
    exact hw s.g ws g' h hg'
  | r t => simp only [step, Option.some.injEq] at hs; subst hs; exact h
  | start t k => simp only [step, Option.some.injEq] at hs; subst hs; exact h

theorem ri_run (as : List (Act K V)) (s s' : St K V) (ri : RI top s.g) (h : run top s as = some s') : RI top s'.g :=
  run_invariant top (RI top) (fun g ws g' ri h => ri_wstep top g g' ws ri h) as s s' ri h

/-! ## word/key/value consistency outside the pending slot (not needed for hindsight; part of the
representation invariant) -/

def consSlot (s : Slot) : Prop := s.present = s.keyp.isSome ∧ s.keyp.isSome = s.valp.isSome

def SlotCons (g : G K V) : Prop := ∀ b i, pendSlot g.pending ≠ some (b, i) → consSlot (getSlot g b i)

theorem SlotCons.of_slotUpd {g g' : G K V} {b i : Nat} {s' : Slot} (hc : SlotCons g) (upd : SlotUpd g g' b i s')
    (hold : pendSlot g.pending = none ∨ pendSlot g.pending = some (b, i))
    (hnew : pendSlot g'.pending = some (b, i) ∨ consSlot s') : SlotCons g' := by
  refine forall_slots (fun hnp => hnew.elim (fun h => absurd h hnp) fun h => upd.at_ ▸ h) fun b' i' hne _ => ?_
  rw [upd.other b' i' hne]
  refine hc b' i' fun e => ?_
  rcases hold with h | h <;> rw [h] at e <;> cases e
  exact hne ⟨rfl, rfl⟩

theorem cons_WR {g g' : G K V} (h : WR top g g') (ri : RI top g) (hc : SlotCons g) : SlotCons g' := by
  have hpend := ri.pend
  unfold PendOK at hpend
  cases h with
  | insWord b i k v hp hb hi hk hv hpr hc' upd kh vh np pd =>
    exact hc.of_slotUpd upd (Or.inl (congrArg pendSlot hp)) (Or.inl (congrArg pendSlot pd))
  | finInsVal b i kp vp hp upd kh vh np pd =>
    exact hc.of_slotUpd upd (Or.inr (congrArg pendSlot hp)) (Or.inl (congrArg pendSlot pd))
  | finInsKey b i kp hp upd kh vh np pd =>
    rw [hp] at hpend
    exact hc.of_slotUpd upd (Or.inr (congrArg pendSlot hp)) (Or.inr ⟨hpend.2.2.2.2.1, hpend.2.2.2.1.symm⟩)
  | finDelVal b i hp upd kh vh np pd =>
    exact hc.of_slotUpd upd (Or.inr (congrArg pendSlot hp)) (Or.inl (congrArg pendSlot pd))
  | finDelKey b i hp upd kh vh np pd =>
    rw [hp] at hpend
    exact hc.of_slotUpd upd (Or.inr (congrArg pendSlot hp))
      (Or.inr ⟨hpend.2.2.1, (congrArg Option.isSome hpend.2.2.2.2).symm⟩)
  | delWord b i hp hb hi hpr hk hv upd kh vh np pd =>
    exact hc.of_slotUpd upd (Or.inl (congrArg pendSlot hp)) (Or.inl (congrArg pendSlot pd))
  | update b i v hp hb hi hpr hk hv upd kh vh np pd =>
    exact hc.of_slotUpd upd (Or.inl (congrArg pendSlot hp)) (Or.inr ⟨hpr.trans hk.symm, hk⟩)
  | append k v hp hc' upd len kh vh np pd =>
    exact hc.of_slotUpd upd (Or.inl (congrArg pendSlot hp)) (Or.inr ⟨rfl, rfl⟩)

def RIfull (g : G K V) : Prop := RI top g ∧ SlotCons g

theorem rifull_init (k0 : K) : RIfull top (init (V := V) k0).g :=
  ⟨ri_init top k0, fun b i _ => by rw [getSlot_init]; exact ⟨rfl, rfl⟩⟩

theorem rifull_run (as : List (Act K V)) : ∀ (s s' : St K V), RIfull top s.g → run top s as = some s' →
    RIfull top s'.g :=
  run_invariant top (RIfull top)
    (fun g ws g' h hs => ⟨ri_wstep top g g' ws h.1 hs, cons_WR top (wstep_WR top g g' ws h.1 hs) h.1 h.2⟩) as

end Proofs.SlotMapHindsight
