import CacheVerif.Proofs.DeepCache
import CacheVerif.Proofs.ConcCacheSolo
/-!
# The steps of M5 are the atomic actions of the source text

`Deep.deepTrace` runs a method of the generated syntax through the interpreter with a *tracing* twin; `DeepCache.meets`
says the trace it records is `DeepActions.actions`.  `soloTrace` lists, for a thread of the concurrent model M5 that runs a
call alone, the action of each of its steps (`evOf`); `solo_actions` says it is the same list, for every state and every
call: M5 splits a call into exactly the atomic actions the current source text performs, in the same order and on the
same keys (a step of M5 that the code does not take — reading the clock in `Set` when `d ≤ 0` — is marked as a silent
step in `evOf`).  With `ConcCacheSolo.solo_eq_m2` (what the steps compute) this ties the hand-written M5 to the text of
`xsync_map.go` (`trace_eq`), up to the interleaving semantics itself.
-/
namespace DeepTrace
open Deep Model Spec Model.ConcCache Proofs.ConcCacheSolo DeepActions DeepTraceCommon
variable {K V : Type} [DecidableEq K] [Inhabited V]

/-- **M5 splits every call into exactly the atomic actions of the call** (the second half of `ConcCacheSolo.solo`) -/
theorem solo_actions (g : G K V) (op : COp K V) :
    ∃ cs, soloTrace g L.init (start op :: cs) = some (actions (view g) (toSpec op)) := by
  obtain ⟨cs, h⟩ := solo g op
  refine ⟨cs, ?_⟩
  rw [← soloTr_snd]
  unfold Solo at h
  cases hr : soloTr g L.init (start op :: cs) with
  | none => rw [hr] at h; cases h
  | some r => rw [hr] at h; exact congrArg (some ·.2) (Option.some.inj h)

/-- **the steps of M5 are the atomic actions of the source text**: the per-step actions of a solo thread of M5 are
the trace the interpreter records, in the run that ends in the state and result of the sequential step -/
theorem trace_eq (g : G K V) (op : COp K V) :
    ∃ cs t, soloTrace g L.init (start op :: cs) = some t ∧
      deepTrace twinMapTr (view g) (toSpec op) =
        some ((Cache.step (view g) (toSpec op)).1, (Cache.step (view g) (toSpec op)).2, t) := by
  obtain ⟨cs, h⟩ := solo_actions g op
  exact ⟨cs, _, h, DeepCache.meets true (view g) (toSpec op) (isCall_toSpec op)⟩

theorem unlocked_of_actions {T : Twin K V} {s : CSt K V} {op : Op K V}
    (ht : (deepTrace T s op).map (·.2.2) = some (actions s op)) (hu : Ev.calledLocked ∉ actions s op) :
    ∀ r, deepTrace T s op = some r → Ev.calledLocked ∉ r.2.2 := by
  intro r hr
  rw [hr] at ht
  have e : r.2.2 = actions s op := Option.some.inj ht
  rwa [e]

theorem trace_actions (s : CSt K V) (op : Op K V) (hop : isCall op) :
    (deepTrace twinMapTr s op).map (·.2.2) = some (actions s op) := by
  rw [show (twinMapTr : Twin K V) = DeepCache.twin true id from rfl, DeepCache.meets true s op hop]; rfl

theorem actions_unlocked (s : CSt K V) (op : COp K V) : Ev.calledLocked ∉ actions s (toSpec op) := by
  obtain ⟨cs, h⟩ := solo_actions (⟨s.items, s.now, s.dflt, s.cb, [], TTL.init s.dflt s.cb s.now⟩ : G K V) op
  exact soloTrace_unlocked _ _ _ _ h

/-- **the evicted callback is never invoked from inside a closure that runs under a bucket lock**, in the text of
every method of the concurrent interface -/
theorem callbacks_unlocked (s : CSt K V) (op : COp K V) :
    ∀ r, deepTrace twinMapTr s (toSpec op) = some r → Ev.calledLocked ∉ r.2.2 :=
  unlocked_of_actions (trace_actions s _ (isCall_toSpec op)) (actions_unlocked s op)

/-- … nor is `Range`'s visitor -/
theorem visitor_unlocked (s : CSt K V) (f : K → V → Bool) :
    ∀ r, deepTrace twinMapTr s (.range f) = some r → Ev.calledLocked ∉ r.2.2 :=
  unlocked_of_actions (trace_actions s _ trivial) (by simp [actions, rangeEvs_unlocked])

/-- an action that takes no bucket lock and writes nothing: a lock-free `Load`, `Size`, a clock read.  `DeepTraceOf.readOnly`
is the same predicate; `C16_source_lookups_read_only` states each file's half with the one of that file's name -/
def readOnly : Ev K V → Bool
  | .load _ | .size | .clock => true
  | _ => false

end DeepTrace
