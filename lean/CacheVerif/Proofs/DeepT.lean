import CacheVerif.Deep.TInterp
import CacheVerif.Proofs.Words
/-!
# Running the interpreter of the table layer's Go subset (`Deep/TInterp.lean`) symbolically

What the proofs about the printed table functions (`DeepLoad`, `DeepLoadM`, `DeepAppend`, `DeepSize`) share: the pieces of a
printed body by position, the simp set that runs the interpreter, and the loops the printed functions are made of (the walk
along `next`, the counting `for` over the slots of a bucket), each stated once from what one pass does.  Last,
`DeepLoad.mask_mod`, which both `Load`s use.
-/
namespace Proofs.DeepT
open Deep.T Model.Words Model.Table Proofs.Words

variable {K V : Type}

/-! ### pieces of the printed syntax (by position, whatever they are) -/

def nth : Stmt → Nat → Stmt
  | .seq a _, 0 => a
  | .seq _ b, n + 1 => nth b n
  | s, 0 => s
  | _, _ + 1 => .skip

def unblock : Stmt → Stmt
  | .block s => s
  | s => s

def loopBody : Stmt → Stmt
  | .forever b => b
  | .while _ b => b
  | s => s

def loopCond : Stmt → Expr
  | .while c _ => c
  | _ => .bool true

def restFrom : Stmt → Nat → Stmt
  | s, 0 => s
  | .seq _ b, n + 1 => restFrom b n
  | _, _ + 1 => .skip

/-! Symbolic evaluation: wherever this namespace is open `simp` unfolds the clauses of the interpreter (not its loop
combinators, which the proofs step by hand) and the accessors above. -/
attribute [scoped simp] eval evalList readAll exec execW binop leaf1 leaf3 constOf selField addrOf atomicLoad conv isPtr
  storeTo leave leaveW setVar iter iter3 iter3W List.lookup nth unblock loopBody loopCond restFrom

def forInit : Stmt → Stmt | .for3 i _ _ _ => i | s => s
def forCond : Stmt → Expr | .for3 _ c _ _ => c | _ => .bool false
def forPost : Stmt → Stmt | .for3 _ _ p _ => p | s => s
def forBody : Stmt → Stmt | .for3 _ _ _ b => b | s => s
def rangeBody : Stmt → Stmt | .rangeIdx _ _ b => b | s => s
attribute [scoped simp] forInit forCond forPost forBody rangeBody

/-- **the walk along `next`** (the `for { … }` of both `Load`s) -/
theorem walk_loop {B : Type} (body : Env K V → Option (Out K V)) (envAt : Nat → Env K V) (c : List B) (sb : B → Option V)
    (hstep : ∀ j (hj : j < c.length), body (envAt j) =
      (match sb c[j] with
       | some v => some (.ret [.val v, .bool true])
       | none => if j + 1 < c.length then some (.normal (envAt (j + 1))) else some (.ret [.zeroV, .bool false]))) :
    ∀ (n j : Nat), j < c.length → c.length - j ≤ n →
      loopN body n (envAt j) = some (match searchWith sb (c.drop j) with
        | some v => .ret [.val v, .bool true]
        | none => .ret [.zeroV, .bool false]) := by
  intro n
  induction n with
  | zero => intro j hj hn; omega
  | succ n ih =>
    intro j hj hn
    rw [loopN, hstep j hj, List.drop_eq_getElem_cons hj, searchWith]
    cases sb c[j] with
    | some v => rfl
    | none =>
      by_cases hj1 : j + 1 < c.length
      · simp only [hj1, if_true, orE_none_left]
        exact ih (j + 1) hj1 (by omega)
      · simp [hj1, List.drop_eq_nil_of_le (Nat.le_of_not_lt hj1), searchWith]

/-- a printed `Load`: a prologue, then that walk -/
theorem call_walk [DecidableEq K] {B : Type} (fuel : Nat) (h : Heap K V) (d : FuncDecl) (key : K) (res : List String) (env0 : Env K V)
    (hcall : call fuel h d [.key key] = (match exec fuel h res d.body env0 with
      | some (.ret vs) => some vs
      | _ => none))
    (body : Stmt) (envAt : Nat → Env K V) (hpro : exec fuel h res d.body env0 = exec fuel h res (.forever body) (envAt 0))
    (c : List B) (sb : B → Option V)
    (hstep : ∀ j (hj : j < c.length), exec fuel h res body (envAt j) =
      (match sb c[j] with
       | some v => some (.ret [.val v, .bool true])
       | none => if j + 1 < c.length then some (.normal (envAt (j + 1))) else some (.ret [.zeroV, .bool false])))
    (hne : c ≠ []) (hfuel : c.length ≤ fuel) :
    call fuel h d [.key key] = some (match searchWith sb c with
      | some v => [.val v, .bool true]
      | none => [.zeroV, .bool false]) := by
  have := walk_loop (fun env => exec fuel h res body env) envAt c sb hstep fuel 0 (List.length_pos_iff.2 hne) (by omega)
  rw [List.drop_zero] at this
  rw [hcall, hpro]
  simp only [exec]
  rw [this]
  cases searchWith sb c <;> rfl

/-- the counting `for` over the slots of a bucket (`for i := 0; i < N; i++ { … }`) -/
theorem count_loop (it : Env K V → Option (Out K V)) (envAt : Nat → Env K V) (N : Nat) (test : Nat → Option V)
    (m : Nat → Bool)
    (hstep : ∀ n, n < N → it (envAt n) =
      (match (if m n then test n else none) with
       | some v => some (.ret [.val v, .bool true])
       | none => some (.normal (envAt (n + 1)))))
    (hexit : it (envAt N) = some (.brk (envAt N))) :
    ∀ (d n fuel : Nat), n + d = N → d < fuel →
      loopN it fuel (envAt n) = some (match firstMarked test m d n with
        | some v => .ret [.val v, .bool true]
        | none => .normal (envAt N)) := by
  intro d
  induction d with
  | zero =>
    intro n fuel hn hf
    obtain ⟨f, rfl⟩ : ∃ f, fuel = f + 1 := ⟨fuel - 1, by omega⟩
    obtain rfl : n = N := by omega
    rw [loopN, hexit]
    rfl
  | succ d ih =>
    intro n fuel hn hf
    obtain ⟨f, rfl⟩ : ∃ f, fuel = f + 1 := ⟨fuel - 1, by omega⟩
    rw [loopN, hstep n (by omega), firstMarked]
    cases (if m n then test n else none) with
    | some v => rfl
    | none => exact ih (n + 1) f (by omega) (by omega)

theorem count_loopW (it : W K V → Option (OutW K V)) (wAt : Nat → W K V) (N : Nat) (p : Nat → Bool) (ret : Nat → Heap K V)
    (hstep : ∀ n, n < N → it (wAt n) = if p n then some (.ret (ret n) []) else some (.normal (wAt (n + 1))))
    (hexit : it (wAt N) = some (.brk (wAt N))) :
    ∀ (d n fuel : Nat), n + d = N → d < fuel →
      loopNW it fuel (wAt n) = some (match firstMarked some p d n with
        | some i => .ret (ret i) []
        | none => .normal (wAt N)) := by
  intro d
  induction d with
  | zero =>
    intro n fuel hn hf
    obtain ⟨f, rfl⟩ : ∃ f, fuel = f + 1 := ⟨fuel - 1, by omega⟩
    obtain rfl : n = N := by omega
    rw [loopNW, hexit]
    rfl
  | succ d ih =>
    intro n fuel hn hf
    obtain ⟨f, rfl⟩ : ∃ f, fuel = f + 1 := ⟨fuel - 1, by omega⟩
    rw [loopNW, hstep n (by omega), firstMarked]
    cases p n with
    | true => rfl
    | false => exact ih (n + 1) f (by omega) (by omega)

theorem chain_of_heap (var : Variant) (env : Model.Table.Env K) (m : St K V) (key : K) {B : Type}
    (chains : List (List B)) (fl : List B → Slots K V) (htbl : m.tbl.chains = chains.map fl) (i : Nat)
    (hi : i < chains.length) (hb : var.bidx (env.hash key m.tbl.seed) chains.length = i) :
    m.tbl.chain (m.tbl.bucketOf var env key) = fl chains[i] := by
  rw [Tbl.chain, Tbl.bucketOf, Tbl.len, htbl, List.length_map, hb, List.getD_eq_getElem?_getD, List.getElem?_map,
    List.getElem?_eq_getElem hi]
  rfl

end Proofs.DeepT

namespace Proofs.DeepLoad

/-- `uint64(len - 1) & x` is `x mod len` for a power-of-two length -/
theorem mask_mod (p : Nat) (hp : p < 64) (x : BitVec 64) :
    (BitVec.ofInt 64 (((2 ^ p : Nat) : Int) - 1) &&& x).toNat = x.toNat % 2 ^ p := by
  have h1 : (1 : Nat) ≤ 2 ^ p := Nat.one_le_two_pow
  have h2 : 2 ^ p < 2 ^ 64 := Nat.pow_lt_pow_right (by omega) hp
  have e : (((2 ^ p : Nat) : Int) - 1) = ((2 ^ p - 1 : Nat) : Int) := by omega
  rw [BitVec.toNat_and, e, BitVec.toNat_ofInt]
  have : ((((2 ^ p - 1 : Nat) : Int) % ((2 ^ 64 : Nat) : Int)).toNat) = 2 ^ p - 1 := by
    rw [Int.emod_eq_of_lt (by omega) (by omega)]; simp
  rw [this, Nat.and_comm, Nat.and_two_pow_sub_one_eq_mod]

end Proofs.DeepLoad
