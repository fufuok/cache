import CacheVerif.Proofs.SlotMapOfBasic
/-!
# M4b (MapOf): the representation invariant of one bucket chain, its preservation by the writer, and along runs

Every writer step changes one slot (`Delta`) and is described by what it makes of that slot (`WCase`, `wstep_case`), so
`Inv` is kept if the step leaves that slot and `pending` in order (`inv_of_delta`, `inv_WCase`).  The reader's side needs
`entry_new`.  The head of `Proofs/SlotScheme.lean` says how the names here correspond to those of the `Map` development.
-/
set_option linter.unusedSectionVars false
namespace Proofs.SlotMapOfInv
open Model.SlotMapOf Proofs.SlotMapOfBasic Proofs.SlotScheme Proofs.Runs

variable {K V : Type} [DecidableEq K] (h2 : K → Nat)

structure Inv (g : G K V) : Prop where
  sizes : Sizes g
  alloc : ∀ b i p, getEntry g b i = some p → p < g.nextPtr
  cons : ∀ b i m p, getMeta g b i = some m → getEntry g b i = some p → ∃ k v, g.heap p = some (k, v) ∧ m = h2 k
  uniq : ∀ b i b' i' k v v', slotHolds h2 g b i k = some v → slotHolds h2 g b' i' k = some v' → b = b' ∧ i = i'
  pend : ∀ b i p, g.pending = .insEntry b i p →
    b < g.buckets.length ∧ i < S ∧ getEntry g b i = none ∧ p < g.nextPtr ∧
      ∃ k v, g.heap p = some (k, v) ∧ getMeta g b i = some (h2 k) ∧ ∀ b' i', slotHolds h2 g b' i' k = none

theorem Inv.uniqKey {g : G K V} (hI : Inv h2 g) (k : K) : Uniq fun b i => slotHolds h2 g b i k := by
  intro b i b' i' h h'
  obtain ⟨v, hv⟩ := Option.ne_none_iff_exists'.mp h
  obtain ⟨v', hv'⟩ := Option.ne_none_iff_exists'.mp h'
  exact hI.uniq b i b' i' k v v' hv hv'

/-! ### `content` in terms of `slotHolds` -/

theorem slotHolds_off_grid (g : G K V) (hs : Sizes g) (k : K) (b i : Nat) (h : ¬(b < g.buckets.length ∧ i < S)) :
    slotHolds h2 g b i k = none :=
  Classical.not_not.mp fun hn => by
    obtain ⟨_, _, hmeta, _⟩ := (slotHolds_ne_none_iff h2 g b i k).mp hn
    exact h (getMeta_inRange hs hmeta)

theorem content_none_iff (g : G K V) (hs : Sizes g) (k : K) :
    content h2 g k = none ↔ ∀ b i, slotHolds h2 g b i k = none :=
  grid_findSome_none_iff (fun b i => slotHolds h2 g b i k) (slotHolds_off_grid h2 g hs k)

theorem content_some_of_holds {g : G K V} (hI : Inv h2 g) {b i : Nat} {k : K} {v : V}
    (h : slotHolds h2 g b i k = some v) : content h2 g k = some v :=
  grid_findSome_eq_of_holds (fun b i => slotHolds h2 g b i k) (slotHolds_off_grid h2 g hI.sizes k) (hI.uniqKey h2 k) h

theorem holds_of_content_some (g : G K V) (k : K) (v : V) (h : content h2 g k = some v) :
    ∃ b i, slotHolds h2 g b i k = some v :=
  grid_findSome_some (fun b i => slotHolds h2 g b i k) h

theorem holds_of_entry {g : G K V} (hI : Inv h2 g) {b i m : Nat} {p : Ptr} {k : K} {v : V}
    (hm : getMeta g b i = some m) (he : getEntry g b i = some p) (hh : g.heap p = some (k, v)) :
    slotHolds h2 g b i k = some v := by
  obtain ⟨k', v', hh', rfl⟩ := hI.cons b i m p hm he
  rw [hh] at hh'
  cases hh'
  exact (slotHolds_some_iff h2 g b i k v).mpr ⟨p, hm, he, hh⟩

/-! ### single-slot changes -/

structure Delta (g g' : G K V) (b i : Nat) : Prop where
  meta_other : ∀ b' i', ¬ (b' = b ∧ i' = i) → getMeta g' b' i' = getMeta g b' i'
  entry_other : ∀ b' i', ¬ (b' = b ∧ i' = i) → getEntry g' b' i' = getEntry g b' i'
  heap_old : ∀ p, p < g.nextPtr → g'.heap p = g.heap p
  next_le : g.nextPtr ≤ g'.nextPtr

theorem holds_other {g g' : G K V} {b i : Nat} (hd : Delta g g' b i) (hI : Inv h2 g) (k : K) (b' i' : Nat)
    (hne : ¬ (b' = b ∧ i' = i)) : slotHolds h2 g' b' i' k = slotHolds h2 g b' i' k := by
  unfold slotHolds
  rw [hd.meta_other b' i' hne, hd.entry_other b' i' hne]
  split
  · next m p _ hp => rw [hd.heap_old p (hI.alloc b' i' p hp)]
  · rfl

theorem delta_setMeta {g g' : G K V} (hs : Sizes g) (b i : Nat) {m : Option Nat} (hb : b < g.buckets.length) (hi : i < S)
    {heap' : Ptr → Option (K × V)} {next' : Ptr} {pend' : Pending}
    (hg : g' = { setMeta g b i m with heap := heap', nextPtr := next', pending := pend' })
    (hheap : ∀ p, p < g.nextPtr → heap' p = g.heap p) (hnext : g.nextPtr ≤ next') :
    Delta g g' b i ∧ Sizes g' ∧ getMeta g' b i = m ∧ getEntry g' b i = getEntry g b i := by
  subst hg
  exact ⟨⟨fun b' i' hne => (getMeta_setMeta g b i m b' i').trans (if_neg fun h => hne ⟨h.1.1.symm, h.2.1.symm⟩),
      fun b' i' _ => getEntry_setMeta g b i m b' i', hheap, hnext⟩,
    sizes_setMeta g hs b i m,
    (getMeta_setMeta g b i m b i).trans (if_pos ⟨⟨rfl, hb⟩, rfl, by rw [(hs _ (getD_mem _ hb)).1]; exact hi⟩),
    getEntry_setMeta g b i m b i⟩

theorem delta_setEntry {g g' : G K V} (hs : Sizes g) (b i : Nat) {e : Option Ptr}
    {heap' : Ptr → Option (K × V)} {next' : Ptr} {pend' : Pending}
    (hg : g' = { setEntry g b i e with heap := heap', nextPtr := next', pending := pend' })
    (hheap : ∀ p, p < g.nextPtr → heap' p = g.heap p) (hnext : g.nextPtr ≤ next') :
    Delta g g' b i ∧ Sizes g' ∧ getMeta g' b i = getMeta g b i ∧
      (e = none ∨ (b < g.buckets.length ∧ i < S) → getEntry g' b i = e) := by
  subst hg
  refine ⟨⟨fun b' i' _ => getMeta_setEntry g b i e b' i',
      fun b' i' hne => (getEntry_setEntry g b i e b' i').trans (if_neg fun h => hne ⟨h.1.1.symm, h.2.1.symm⟩), hheap, hnext⟩,
    sizes_setEntry g hs b i e, getMeta_setEntry g b i e b i, fun h => (getEntry_setEntry g b i e b i).trans ?_⟩
  rcases h with rfl | ⟨hb, hi⟩
  · split
    · rfl
    · next hc =>
      by_cases hb : b < g.buckets.length
      · exact getD_of_le (Nat.le_of_not_lt fun hi => hc ⟨⟨rfl, hb⟩, rfl, hi⟩)
      · exact getEntry_none_of_ge g b i (Nat.le_of_not_lt hb)
  · exact if_pos ⟨⟨rfl, hb⟩, rfl, by rw [(hs _ (getD_mem _ hb)).2]; exact hi⟩

theorem delta_append {g g' : G K V} (hs : Sizes g) (h : Nat) (p : Ptr) {heap' : Ptr → Option (K × V)} {next' : Ptr}
    (hg : g' = { g with buckets := g.buckets ++ [newBucket h p], heap := heap', nextPtr := next' })
    (hheap : ∀ p, p < g.nextPtr → heap' p = g.heap p) (hnext : g.nextPtr ≤ next') :
    Delta g g' g.buckets.length 0 ∧ Sizes g' ∧ getMeta g' g.buckets.length 0 = some h ∧
      getEntry g' g.buckets.length 0 = some p := by
  subst hg
  exact ⟨⟨fun b' i' hne => by rw [getMeta_append rfl, if_neg hne],
    fun b' i' hne => by rw [getEntry_append rfl, if_neg hne], hheap, hnext⟩,
   sizes_append hs rfl, by rw [getMeta_append rfl, if_pos ⟨rfl, rfl⟩],
   by rw [getEntry_append rfl, if_pos ⟨rfl, rfl⟩]⟩

theorem inv_of_delta {g g' : G K V} {b i : Nat} (hd : Delta g g' b i) (hI : Inv h2 g) (hsz : Sizes g')
    (hslot : ∀ p, getEntry g' b i = some p → p < g'.nextPtr ∧ ∀ m, getMeta g' b i = some m →
      ∃ k v, g'.heap p = some (k, v) ∧ m = h2 k ∧ ∀ b' i', ¬ (b' = b ∧ i' = i) → slotHolds h2 g b' i' k = none)
    (hpend : ∀ b0 i0 p, g'.pending = .insEntry b0 i0 p →
      b0 < g'.buckets.length ∧ i0 < S ∧ getEntry g' b0 i0 = none ∧ p < g'.nextPtr ∧
        ∃ k v, g'.heap p = some (k, v) ∧ getMeta g' b0 i0 = some (h2 k) ∧ ∀ b' i', slotHolds h2 g' b' i' k = none) :
    Inv h2 g' := by
  refine ⟨hsz, forall_slots (fun p hp => (hslot p hp).1) fun b' i' hne p hp => ?_,
    forall_slots (b := b) (i := i) (fun m p hm hp => ?_) fun b' i' hne m p hm hp => ?_,
    fun b1 i1 b2 i2 k v v' h1 h2' => ?_, hpend⟩
  · rw [hd.entry_other b' i' hne] at hp
    exact Nat.lt_of_lt_of_le (hI.alloc b' i' p hp) hd.next_le
  · obtain ⟨k, v, hh, hm, _⟩ := (hslot p hp).2 m hm
    exact ⟨k, v, hh, hm⟩
  · rw [hd.meta_other b' i' hne] at hm
    rw [hd.entry_other b' i' hne] at hp
    rw [hd.heap_old p (hI.alloc b' i' p hp)]
    exact hI.cons b' i' m p hm hp
  · refine uniq_store (holds_other h2 hd hI k) (hI.uniqKey h2 k) (fun hh => ?_) b1 i1 b2 i2
      (by simp [h1]) (by simp [h2'])
    obtain ⟨v0, p, hm, hp, hh0⟩ := (slotHolds_ne_none_iff h2 g' b i k).mp hh
    obtain ⟨k0, _, hh1, _, hnew⟩ := (hslot p hp).2 _ hm
    rw [hh0] at hh1; cases hh1
    exact hnew

/-! ### the writer's steps, case by case -/

structure InsMetaC (g g' : G K V) (b i : Nat) (k : K) (v : V) : Prop where
  m0 : getMeta g b i = none
  e0 : getEntry g b i = none
  absent : content h2 g k = none
  d : Delta g g' b i
  sz : Sizes g'
  hi : i < S
  m1 : getMeta g' b i = some (h2 k)
  e1 : getEntry g' b i = none
  hp : g'.heap g.nextPtr = some (k, v)
  nx : g'.nextPtr = g.nextPtr + 1
  pnd' : g'.pending = .insEntry b i g.nextPtr

structure FinInsC (g g' : G K V) (b i : Nat) (p : Ptr) : Prop where
  pnd : g.pending = .insEntry b i p
  d : Delta g g' b i
  sz : Sizes g'
  m1 : getMeta g' b i = getMeta g b i
  e1 : getEntry g' b i = some p
  hp : g'.heap = g.heap
  nx : g'.nextPtr = g.nextPtr
  pnd' : g'.pending = .none

structure FinDelC (g g' : G K V) (b i : Nat) : Prop where
  d : Delta g g' b i
  sz : Sizes g'
  e1 : getEntry g' b i = none
  pnd' : g'.pending = .none

structure DelMetaC (g g' : G K V) (b i : Nat) : Prop where
  d : Delta g g' b i
  sz : Sizes g'
  m1 : getMeta g' b i = none
  e1 : getEntry g' b i = getEntry g b i
  pnd' : g'.pending = .delEntry b i

structure UpdateC (g g' : G K V) (b i : Nat) (v : V) (m : Nat) (p : Ptr) (k : K) (v0 : V) : Prop where
  m0 : getMeta g b i = some m
  e0 : getEntry g b i = some p
  h0 : g.heap p = some (k, v0)
  d : Delta g g' b i
  sz : Sizes g'
  m1 : getMeta g' b i = some m
  e1 : getEntry g' b i = some g.nextPtr
  hp : g'.heap g.nextPtr = some (k, v)
  nx : g'.nextPtr = g.nextPtr + 1
  pnd' : g'.pending = .none

structure AppendC (g g' : G K V) (k : K) (v : V) : Prop where
  absent : content h2 g k = none
  d : Delta g g' g.buckets.length 0
  sz : Sizes g'
  m1 : getMeta g' g.buckets.length 0 = some (h2 k)
  e1 : getEntry g' g.buckets.length 0 = some g.nextPtr
  hp : g'.heap g.nextPtr = some (k, v)
  nx : g'.nextPtr = g.nextPtr + 1
  pnd' : g'.pending = .none

inductive WCase (g g' : G K V) : Prop where
  | insMeta (b i : Nat) (k : K) (v : V) : InsMetaC h2 g g' b i k v → WCase g g'
  | finIns (b i : Nat) (p : Ptr) : FinInsC g g' b i p → WCase g g'
  | finDel (b i : Nat) : FinDelC g g' b i → WCase g g'
  | delMeta (b i : Nat) : DelMetaC g g' b i → WCase g g'
  | update (b i : Nat) (v : V) (m : Nat) (p : Ptr) (k : K) (v0 : V) : UpdateC g g' b i v m p k v0 → WCase g g'
  | append (k : K) (v : V) : AppendC h2 g g' k v → WCase g g'

theorem slotFree_iff (g : G K V) (b i : Nat) : slotFree g b i = true ↔ getMeta g b i = none ∧ getEntry g b i = none := by
  unfold slotFree
  cases getMeta g b i <;> cases getEntry g b i <;> simp

theorem wstep_case (g g' : G K V) (hI : Inv h2 g) (ws : WStep K V) (h : wstep h2 g ws = some g') : WCase h2 g g' := by
  have halloc : ∀ (c : K × V) (q : Ptr), q < g.nextPtr → (if q = g.nextPtr then some c else g.heap q) = g.heap q :=
    fun c q hq => if_neg (Nat.ne_of_lt hq)
  cases ws with
  | insMeta b i k v =>
    simp only [wstep, Option.ite_none_right_eq_some, Option.some.injEq] at h
    obtain ⟨⟨hp, hb, hi, hfree, habs⟩, rfl⟩ := h
    obtain ⟨hm0, he0⟩ := (slotFree_iff g b i).mp hfree
    obtain ⟨d, sz, m1, e1⟩ := delta_setMeta hI.sizes b i hb hi rfl (halloc (k, v)) (Nat.le_succ _)
    exact .insMeta b i k v ⟨hm0, he0, by simpa using habs, d, sz, hi, m1, e1.trans he0, if_pos rfl, rfl, rfl⟩
  | finish =>
    simp only [wstep] at h
    split at h
    · next b i p hp =>
      cases h
      obtain ⟨hb, hi, _⟩ := hI.pend b i p hp
      obtain ⟨d, sz, m1, e1⟩ := delta_setEntry hI.sizes b i rfl (fun _ _ => rfl) (Nat.le_refl _)
      exact .finIns b i p ⟨hp, d, sz, m1, e1 (Or.inr ⟨hb, hi⟩), rfl, rfl, rfl⟩
    · next b i hp =>
      cases h
      obtain ⟨d, sz, _, e1⟩ := delta_setEntry hI.sizes b i rfl (fun _ _ => rfl) (Nat.le_refl _)
      exact .finDel b i ⟨d, sz, e1 (Or.inl rfl), rfl⟩
    · cases h
  | delMeta b i =>
    simp only [wstep, Option.ite_none_right_eq_some, Option.some.injEq] at h
    obtain ⟨⟨hp, hm, he⟩, rfl⟩ := h
    obtain ⟨m, hm⟩ := Option.isSome_iff_exists.mp hm
    obtain ⟨d, sz, m1, e1⟩ := delta_setMeta hI.sizes b i (getMeta_inRange hI.sizes hm).1
      (getMeta_inRange hI.sizes hm).2 rfl (fun _ _ => rfl) (Nat.le_refl _)
    exact .delMeta b i ⟨d, sz, m1, e1, rfl⟩
  | update b i v =>
    simp only [wstep] at h
    split at h
    · next hp =>
      split at h
      · next m p hm he =>
        split at h
        · next k v0 hh =>
          cases h
          obtain ⟨d, sz, m1, e1⟩ := delta_setEntry hI.sizes b i rfl (halloc (k, v)) (Nat.le_succ _)
          exact .update b i v m p k v0 ⟨hm, he, hh, d, sz, m1.trans hm, e1 (Or.inr (getMeta_inRange hI.sizes hm)),
            if_pos rfl, rfl, hp⟩
        · cases h
      · cases h
    · cases h
  | append k v =>
    simp only [wstep, Option.ite_none_right_eq_some, Option.some.injEq] at h
    obtain ⟨⟨hp, habs⟩, rfl⟩ := h
    obtain ⟨d, sz, m1, e1⟩ := delta_append hI.sizes (h2 k) g.nextPtr rfl (halloc (k, v)) (Nat.le_succ _)
    exact .append k v ⟨by simpa using habs, d, sz, m1, e1, if_pos rfl, rfl, hp⟩

/-! ### the invariant is preserved -/

theorem inv_of_fill {g g' : G K V} {b i : Nat} (hd : Delta g g' b i) (hI : Inv h2 g) (hsz : Sizes g') {p : Ptr} {k : K}
    {v : V} (he : getEntry g' b i = some p) (hm : getMeta g' b i = some (h2 k)) (hh : g'.heap p = some (k, v))
    (hp : p < g'.nextPtr) (hnew : ∀ b' i', ¬ (b' = b ∧ i' = i) → slotHolds h2 g b' i' k = none)
    (hpd : g'.pending = .none) : Inv h2 g' := by
  refine inv_of_delta h2 hd hI hsz (fun p' hp' => ?_) fun _ _ _ h0 => by rw [hpd] at h0; cases h0
  rw [he] at hp'; cases hp'
  refine ⟨hp, fun m' hm' => ?_⟩
  rw [hm] at hm'; cases hm'
  exact ⟨k, v, hh, rfl, hnew⟩

theorem inv_WCase {g g' : G K V} (c : WCase h2 g g') (hI : Inv h2 g) : Inv h2 g' := by
  cases c with
  | insMeta b i k v c =>
    refine inv_of_delta h2 c.d hI c.sz (fun p hp => by rw [c.e1] at hp; cases hp) fun b0 i0 p hp => ?_
    rw [c.pnd'] at hp
    cases hp
    refine ⟨(getMeta_inRange c.sz c.m1).1, c.hi, c.e1, by rw [c.nx]; exact Nat.lt_succ_self _, k, v, c.hp, c.m1, ?_⟩
    refine forall_slots (slotHolds_none_of_entry h2 g' b i k c.e1) fun b' i' hne => ?_
    rw [holds_other h2 c.d hI k b' i' hne]
    exact (content_none_iff h2 g hI.sizes k).mp c.absent b' i'
  | finIns b i p c =>
    obtain ⟨_, _, _, hpn, k, v, hh, hm, hnone⟩ := hI.pend b i p c.pnd
    exact inv_of_fill h2 c.d hI c.sz c.e1 (c.m1.trans hm) (c.hp ▸ hh) (c.nx ▸ hpn) (fun b' i' _ => hnone b' i') c.pnd'
  | finDel b i c =>
    exact inv_of_delta h2 c.d hI c.sz (fun p hp => by rw [c.e1] at hp; cases hp)
      fun _ _ _ hp0 => by rw [c.pnd'] at hp0; cases hp0
  | delMeta b i c =>
    refine inv_of_delta h2 c.d hI c.sz (fun p hp => ⟨?_, fun m hm => by rw [c.m1] at hm; cases hm⟩)
      fun _ _ _ hp0 => by rw [c.pnd'] at hp0; cases hp0
    rw [c.e1] at hp
    exact Nat.lt_of_lt_of_le (hI.alloc b i p hp) c.d.next_le
  | update b i v m p k v0 c =>
    have hold := holds_of_entry h2 hI c.m0 c.e0 c.h0
    obtain ⟨k1, v1, hh1, rfl⟩ := hI.cons b i m p c.m0 c.e0
    rw [c.h0] at hh1; cases hh1
    -- the slot held the key before, and a key has one holder
    refine inv_of_fill h2 c.d hI c.sz c.e1 c.m1 c.hp (c.nx ▸ Nat.lt_succ_self _) (fun b' i' hne => ?_) c.pnd'
    cases hx : slotHolds h2 g b' i' k with
    | none => rfl
    | some v' => exact absurd (hI.uniq b' i' b i k v' v0 hx hold) hne
  | append k v c =>
    exact inv_of_fill h2 c.d hI c.sz c.e1 c.m1 c.hp (c.nx ▸ Nat.lt_succ_self _)
      (fun b' i' _ => (content_none_iff h2 g hI.sizes k).mp c.absent b' i') c.pnd'

/-! ### what a writer step can do to an entry pointer -/

theorem WCase.delta {g g' : G K V} (c : WCase h2 g g') : ∃ b i, Delta g g' b i := by
  cases c <;> rename_i c <;> exact ⟨_, _, c.d⟩

/-- only `delMeta` leaves an entry pointer under a cleared meta byte, and it does not touch the pointer -/
theorem entry_old_of_meta_none {g g' : G K V} (c : WCase h2 g g') (hI : Inv h2 g) {b1 i1 : Nat} {p' : Ptr}
    (hm : getMeta g' b1 i1 = none) (he : getEntry g' b1 i1 = some p') : getEntry g b1 i1 = some p' := by
  have key : ∀ {b i}, Delta g g' b i →
      (getMeta g' b i = none → getEntry g' b i = some p' → getEntry g b i = some p') → getEntry g b1 i1 = some p' := by
    intro b i hd hsame
    by_cases hne : b1 = b ∧ i1 = i
    · obtain ⟨rfl, rfl⟩ := hne; exact hsame hm he
    · rw [← hd.entry_other b1 i1 hne]; exact he
  cases c with
  | insMeta b i k1 v1 c => exact key c.d fun hm _ => by rw [c.m1] at hm; cases hm
  | finIns b i p c =>
    obtain ⟨_, _, _, _, _, _, _, hm0, _⟩ := hI.pend b i p c.pnd
    exact key c.d fun hm _ => by rw [c.m1, hm0] at hm; cases hm
  | finDel b i c => exact key c.d fun _ he => by rw [c.e1] at he; cases he
  | delMeta b i c => exact key c.d fun _ he => by rw [c.e1] at he; exact he
  | update b i v1 m p k1 v0 c => exact key c.d fun hm _ => by rw [c.m1] at hm; cases hm
  | append k1 v1 c => exact key c.d fun hm _ => by rw [c.m1] at hm; cases hm

theorem entry_new {g g' : G K V} (c : WCase h2 g g') (hI : Inv h2 g) (hI' : Inv h2 g') {b1 i1 : Nat} {p' : Ptr}
    {k : K} {v : V} (he : getEntry g' b1 i1 = some p') (hh : g'.heap p' = some (k, v)) :
    (getEntry g b1 i1 = some p' ∧ g.heap p' = some (k, v)) ∨ slotHolds h2 g' b1 i1 k = some v := by
  cases hm : getMeta g' b1 i1 with
  | some m => exact Or.inr (holds_of_entry h2 hI' hm he hh)
  | none =>
    have hold := entry_old_of_meta_none h2 c hI hm he
    obtain ⟨b, i, hd⟩ := c.delta
    exact Or.inl ⟨hold, by rw [← hd.heap_old p' (hI.alloc b1 i1 p' hold)]; exact hh⟩

/-! ### runs -/

theorem run_eq_foldlM (as : List (Act K V)) (s : St K V) : run h2 s as = as.foldlM (step h2) s :=
  eq_foldlM _ (run h2) (fun _ => rfl) (fun s a as => by rw [run]; cases step h2 s a <;> rfl) as s

theorem run_invariant (P : G K V → Prop) (hw : ∀ g ws g', P g → wstep h2 g ws = some g' → P g')
    (as : List (Act K V)) (s s' : St K V) (h : P s.g) (hr : run h2 s as = some s') : P s'.g := by
  refine foldlM_invariant (step h2) (fun s => P s.g) as (fun a _ s s' h hs => ?_) s s' h (run_eq_foldlM h2 as s ▸ hr)
  cases a with
  | w ws =>
    simp only [step, Option.map_eq_some_iff] at hs
    obtain ⟨g', hg', rfl⟩ := hs
    exact hw s.g ws g' h hg'
  | r t => simp only [step, Option.some.injEq] at hs; subst hs; exact h
  | start t k => simp only [step, Option.some.injEq] at hs; subst hs; exact h

/-! ### the initial state -/

theorem bucket_init (k0 : K) (b : Nat) : (init (V := V) k0).g.buckets.getD b Bucket.empty = Bucket.empty :=
  getD_replicate 1 b

theorem getMeta_init (k0 : K) (b i : Nat) : getMeta (init (V := V) k0).g b i = none := by
  unfold getMeta; rw [bucket_init]; exact getD_replicate S i

theorem getEntry_init (k0 : K) (b i : Nat) : getEntry (init (V := V) k0).g b i = none := by
  unfold getEntry; rw [bucket_init]; exact getD_replicate S i

theorem inv_init (k0 : K) : Inv h2 (init (V := V) k0).g := by
  have hnone : ∀ b i k, slotHolds h2 (init (V := V) k0).g b i k = none := fun b i k =>
    slotHolds_none_of_meta h2 _ b i k (getMeta_init k0 b i)
  refine ⟨?_, ?_, ?_, ?_, ?_⟩
  · intro bk hbk
    simp only [init, List.mem_singleton] at hbk
    subst hbk
    simp [Bucket.empty]
  · intro b i p h; rw [getEntry_init] at h; cases h
  · intro b i m p h; rw [getMeta_init] at h; cases h
  · intro b i b' i' k v v' h; rw [hnone] at h; cases h
  · intro b i p h; cases h

theorem inv_reachable (k0 : K) (as : List (Act K V)) (s : St K V) (h : run h2 (init k0) as = some s) : Inv h2 s.g :=
  run_invariant h2 (Inv h2) (fun g ws g' hI hw => inv_WCase h2 (wstep_case h2 g g' hI ws hw) hI) as _ s (inv_init h2 k0) h

end Proofs.SlotMapOfInv
