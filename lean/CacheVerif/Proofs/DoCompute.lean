import CacheVerif.Model.Proto
/-!
# What a call of `doCompute` means, and what a history of calls means

`doCompute key f loadIfExists computeOnly` is the one writing primitive of `Map` / `MapOf`.  Its builtin-map meaning is
stated on the binding of the key (`specDc`: what a commit of the protocol model M4a implements) and on a whole map
(`specDC`: what the sequential table model M3 refines); they agree (`specDC_eq`), and the four equations after that say
which flags make it which method of the builtin map.  A sequential history of calls of the protocol model's interface
(`LinE`) is run on the builtin map `K → Option V` by `specStep` / `specFold`, and is `Legal` when every recorded result
is the builtin map's: the vocabulary of the linearization log of `Proofs/ProtoHW.lean`.
-/
set_option linter.unusedSectionVars false
namespace Proofs.ProtoLin
variable {V : Type}

/-- builtin-map meaning of `doCompute key f loadIfExists computeOnly` on the current binding `cur` of the key:
(new binding, returned value, returned flag) -/
def specDc (f : Option V → V × Bool) (lie co : Bool) (cur : Option V) : Option V × Option V × Bool :=
  match cur with
  | some old =>
    if lie then (some old, some old, !co)
    else if (f (some old)).2 then (none, some old, !co)
    else (some (f (some old)).1, some (if co then (f (some old)).1 else old), true)
  | none =>
    if (f none).2 then (none, none, false)
    else (some (f none).1, some (f none).1, co)

end Proofs.ProtoLin

namespace Proofs.TableRefine
open Spec Proofs.ProtoLin
variable {K V : Type} [DecidableEq K] [Inhabited V]

/-- what `doCompute` does to a builtin map -/
def specDC (sp : AMap K V) (k : K) (g : Option V → V × Bool) (lie co : Bool) : AMap K V × (V × Bool) :=
  match sp.get k with
  | some old =>
    if lie then (sp, (old, !co))
    else if (g (some old)).2 then (sp.erase k, (old, !co))
    else (sp.set k (g (some old)).1, (if co then (g (some old)).1 else old, true))
  | none =>
    if (g none).2 then (sp, (default, false))
    else (sp.set k (g none).1, ((g none).1, co))

theorem specDC_eq (m : AMap K V) (k : K) (f : Option V → V × Bool) (lie co : Bool) :
    (specDC m k f lie co).1.get k = (specDc f lie co (m.get k)).1 ∧
    (specDC m k f lie co).2 = ((specDc f lie co (m.get k)).2.1.getD default, (specDc f lie co (m.get k)).2.2) := by
  unfold specDC specDc
  cases h : m.get k with
  | none => by_cases hd : (f none).2 = true <;> simp [hd, h, AMap.get_set]
  | some old =>
    by_cases hl : lie = true <;> by_cases hd : (f (some old)).2 = true <;>
      simp [hl, hd, h, AMap.get_set, AMap.get_erase_self]

theorem specDC_las (sp : AMap K V) (k : K) (v : V) :
    specDC sp k (fun _ => (v, false)) false false = sp.loadAndStore k v := by
  unfold specDC AMap.loadAndStore; cases sp.get k <;> simp

theorem specDC_los (sp : AMap K V) (k : K) (v : V) :
    specDC sp k (fun _ => (v, false)) true false = sp.loadOrStore k v := by
  unfold specDC AMap.loadOrStore; cases sp.get k <;> simp

theorem specDC_compute (sp : AMap K V) (k : K) (g : Option V → V × Bool) :
    specDC sp k g false true = sp.compute k g := by
  unfold specDC AMap.compute; cases sp.get k <;> simp

theorem specDC_lad (sp : AMap K V) (k : K) :
    specDC sp k (fun o => (o.getD default, true)) false false = sp.loadAndDelete k := by
  unfold specDC AMap.loadAndDelete; cases sp.get k <;> simp

end Proofs.TableRefine

namespace Proofs.ProtoHW
open Model.Proto Proofs.ProtoLin
variable {K V : Type} [DecidableEq K]

/-- one entry of the sequential history -/
structure LinE (K V : Type) where
  tid : Tid
  op : POp K V
  res : Ret K V

/-- the builtin map: state `K → Option V`; effect and result of one call.  `Size` and `Range` are not part of the linearizable
interface (their guarantees are C08 and C07): the log never holds one, and the `.unit` they are given here is not what they return -/
def specStep (m : K → Option V) : POp K V → (K → Option V) × Ret K V
  | .load k => (m, .val (m k) (m k).isSome)
  | .dc k f lie co =>
    let r := specDc f lie co (m k)
    (fun k' => if k' = k then r.1 else m k', .val r.2.1 r.2.2)
  | .clear => (fun _ => none, .unit)
  | .size => (m, .unit)
  | .range => (m, .unit)

def specFold (m : K → Option V) : List (LinE K V) → (K → Option V)
  | [] => m
  | e :: rest => specFold (specStep m e.op).1 rest

def Legal (m : K → Option V) : List (LinE K V) → Prop
  | [] => True
  | e :: rest => (specStep m e.op).2 = e.res ∧ Legal (specStep m e.op).1 rest

theorem specFold_append (m : K → Option V) (a b : List (LinE K V)) :
    specFold m (a ++ b) = specFold (specFold m a) b := by
  induction a generalizing m with
  | nil => rfl
  | cons e rest ih => simp only [List.cons_append, specFold]; exact ih _

theorem Legal_append (m : K → Option V) (a b : List (LinE K V)) :
    Legal m (a ++ b) ↔ Legal m a ∧ Legal (specFold m a) b := by
  induction a generalizing m with
  | nil => simp [Legal, specFold]
  | cons e rest ih => simp only [List.cons_append, Legal, specFold, ih, and_assoc]

end Proofs.ProtoHW
