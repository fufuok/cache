/-!
# Spec.AMap — the "ordinary map" every container is compared with

A finite map is an association list; `get` returns the first binding, `erase` removes every binding of
a key, `set` puts the new binding in front of the erased list.  The interface operations below are the
`Map` / `MapOf` interface of package `cache` (`map.go`, `mapof.go`) with the results a builtin Go map
would give (DESIGN.md §3.1a).  Core Lean only: this file is linked into the driver executable.
-/
namespace Spec

abbrev AMap (K : Type) (α : Type) := List (K × α)

namespace AMap
variable {K α : Type} [DecidableEq K]

def get (m : AMap K α) (k : K) : Option α :=
  match m with
  | [] => none
  | (k', v) :: rest => if k' = k then some v else get rest k

def erase (m : AMap K α) (k : K) : AMap K α := m.filter (fun p => !decide (p.1 = k))

def set (m : AMap K α) (k : K) (v : α) : AMap K α := (k, v) :: erase m k

def keys (m : AMap K α) : List K := m.map (·.1)

/-- representation invariant: no key is bound twice -/
def WF (m : AMap K α) : Prop := (keys m).Nodup

/-! ### interface operations (result = what a builtin map would answer) -/

/-- `Load` -/
def load [Inhabited α] (m : AMap K α) (k : K) : α × Bool :=
  match m.get k with
  | some v => (v, true)
  | none => (default, false)

/-- `Store` -/
def store (m : AMap K α) (k : K) (v : α) : AMap K α := m.set k v

/-- `LoadOrStore` -/
def loadOrStore (m : AMap K α) (k : K) (v : α) : AMap K α × (α × Bool) :=
  match m.get k with
  | some old => (m, (old, true))
  | none => (m.set k v, (v, false))

/-- `LoadAndStore` -/
def loadAndStore (m : AMap K α) (k : K) (v : α) : AMap K α × (α × Bool) :=
  match m.get k with
  | some old => (m.set k v, (old, true))
  | none => (m.set k v, (v, false))

/-- `Compute`: `g` receives `some old` (loaded = true) or `none` (zero value, loaded = false) and
returns `(newValue, delete)`.  Result `(actual, ok)`. -/
def compute [Inhabited α] (m : AMap K α) (k : K) (g : Option α → α × Bool) : AMap K α × (α × Bool) :=
  match m.get k with
  | some old =>
    if (g (some old)).2 then (m.erase k, (old, false)) else (m.set k (g (some old)).1, ((g (some old)).1, true))
  | none =>
    if (g none).2 then (m, (default, false)) else (m.set k (g none).1, ((g none).1, true))

/-- `LoadAndDelete` (and `Delete`, which drops the result) -/
def loadAndDelete [Inhabited α] (m : AMap K α) (k : K) : AMap K α × (α × Bool) :=
  match m.get k with
  | some old => (m.erase k, (old, true))
  | none => (m, (default, false))

def size (m : AMap K α) : Nat := m.length

/-! ### lemmas

`get` is the observation: every operation is characterised by what `get` returns afterwards, and two duplicate-free
lists with the same `get` are permutations of each other (`perm_of_get_eq`).  `erase_nil`, `keys_erase` and
`loadAndDelete_eq` have no user in the development: they complete the description of an operation. -/

@[simp] theorem get_nil (k : K) : get ([] : AMap K α) k = none := rfl

@[simp] theorem get_cons (k' k : K) (v : α) (m : AMap K α) :
    get ((k', v) :: m) k = if k' = k then some v else get m k := rfl

omit [DecidableEq K] in
theorem mem_keys (m : AMap K α) (k : K) : k ∈ keys m ↔ ∃ v, (k, v) ∈ m := by
  simp [keys]

omit [DecidableEq K] in
theorem keys_append (a b : AMap K α) : keys (a ++ b) = keys a ++ keys b := List.map_append

theorem get_eq_none_iff (m : AMap K α) (k : K) : get m k = none ↔ k ∉ keys m := by
  induction m with
  | nil => simp [keys]
  | cons p m ih =>
    obtain ⟨k', v⟩ := p
    by_cases h : k' = k
    · simp [h, keys]
    · simp [h, Ne.symm h, ih, keys]

theorem ne_of_get_none {m : AMap K α} {k : K} (h : get m k = none) {p : K × α} (hp : p ∈ m) : p.1 ≠ k :=
  fun e => (get_eq_none_iff m k).mp h ((mem_keys m k).mpr ⟨p.2, e ▸ hp⟩)

omit [DecidableEq K] in
theorem WF_nil : WF ([] : AMap K α) := List.nodup_nil

theorem WF_cons (k : K) (v : α) (m : AMap K α) : WF ((k, v) :: m) ↔ get m k = none ∧ WF m := by
  rw [get_eq_none_iff]
  simp only [WF, keys, List.map_cons, List.nodup_cons]

theorem mem_of_get (m : AMap K α) (k : K) (v : α) (h : get m k = some v) : (k, v) ∈ m := by
  induction m with
  | nil => cases h
  | cons p m ih =>
    obtain ⟨k', v'⟩ := p
    rw [get_cons] at h
    split at h
    · rename_i hk; cases h; subst hk; exact List.mem_cons_self
    · exact List.mem_cons_of_mem _ (ih h)

theorem get_of_mem (m : AMap K α) (hw : WF m) (k : K) (v : α) (h : (k, v) ∈ m) : get m k = some v := by
  induction m with
  | nil => cases h
  | cons p m ih =>
    obtain ⟨k', v'⟩ := p
    obtain ⟨hn, hw⟩ := (WF_cons k' v' m).mp hw
    rcases List.mem_cons.mp h with h | h
    · cases h; simp
    · rw [get_cons, if_neg (ne_of_get_none hn h).symm]; exact ih hw h

theorem mem_iff_get (m : AMap K α) (h : WF m) (p : K × α) : p ∈ m ↔ get m p.1 = some p.2 :=
  ⟨get_of_mem m h p.1 p.2, mem_of_get m p.1 p.2⟩

omit [DecidableEq K] in
theorem nodup_of_WF (m : AMap K α) (h : WF m) : m.Nodup :=
  List.Pairwise.of_map (·.1) (fun _ _ hne e => hne (e ▸ rfl)) h

theorem perm_of_get_eq (m1 m2 : AMap K α) (h1 : WF m1) (h2 : WF m2) (hg : ∀ k, get m1 k = get m2 k) :
    m1.Perm m2 := by
  refine (List.perm_ext_iff_of_nodup (nodup_of_WF m1 h1) (nodup_of_WF m2 h2)).mpr fun p => ?_
  rw [mem_iff_get m1 h1, mem_iff_get m2 h2, hg]

theorem get_perm {a b : AMap K α} (hp : a.Perm b) (hw : WF a) (k : K) : get a k = get b k :=
  Option.ext fun v => by
    rw [← mem_iff_get a hw (k, v), ← mem_iff_get b ((hp.map _).nodup_iff.1 hw) (k, v), hp.mem_iff]

/-! #### sublists picked by a predicate (`erase` is one) -/

omit [DecidableEq K] in
theorem WF_filter (m : AMap K α) (P : K × α → Bool) (h : WF m) : WF (m.filter P) :=
  List.Nodup.sublist (List.Sublist.map _ List.filter_sublist) h

theorem get_filter_key (m : AMap K α) (P : K → Bool) (k : K) :
    get (m.filter fun e => P e.1) k = if P k then get m k else none := by
  induction m with
  | nil => simp
  | cons e m ih =>
    obtain ⟨k', v⟩ := e
    by_cases hk : k' = k
    · subst hk
      by_cases hp : P k' = true <;> simp [hp, ih]
    · by_cases hp : P k' = true <;> simp [hp, hk, ih]

/-! #### `erase` -/

theorem erase_nil (k : K) : erase ([] : AMap K α) k = [] := rfl

theorem erase_cons_eq (m : AMap K α) (k : K) (v : α) : erase ((k, v) :: m) k = erase m k := by
  simp [erase]

theorem erase_cons_ne (m : AMap K α) (k k' : K) (v : α) (h : k' ≠ k) :
    erase ((k', v) :: m) k = (k', v) :: erase m k := by
  simp [erase, h]

theorem mem_erase (m : AMap K α) (k : K) (p : K × α) : p ∈ erase m k ↔ p ∈ m ∧ p.1 ≠ k := by
  simp [erase]

theorem get_erase (m : AMap K α) (k k' : K) :
    get (erase m k) k' = if k = k' then none else get m k' := by
  rw [erase, get_filter_key m (fun x => !decide (x = k))]
  by_cases h : k = k'
  · simp [h]
  · have : k' ≠ k := fun e => h e.symm
    simp [h, this]

theorem get_erase_self (m : AMap K α) (k : K) : get (erase m k) k = none := by
  rw [get_erase, if_pos rfl]

theorem get_erase_ne (m : AMap K α) (k k' : K) (h : k ≠ k') : get (erase m k) k' = get m k' := by
  rw [get_erase, if_neg h]

theorem erase_of_get_none (m : AMap K α) (k : K) (h : get m k = none) : erase m k = m :=
  List.filter_eq_self.mpr fun p hp => by simpa using ne_of_get_none h hp

theorem keys_erase (m : AMap K α) (k : K) : keys (erase m k) = (keys m).filter (fun x => !decide (x = k)) := by
  rw [keys, keys, List.filter_map]; rfl

theorem WF_erase (m : AMap K α) (k : K) (h : WF m) : WF (erase m k) := WF_filter m _ h

theorem length_erase_of_get_some (m : AMap K α) (hw : WF m) (k : K) (v : α) (h : get m k = some v) :
    (erase m k).length + 1 = m.length := by
  induction m with
  | nil => cases h
  | cons p m ih =>
    obtain ⟨k', v'⟩ := p
    obtain ⟨hn, hw⟩ := (WF_cons k' v' m).mp hw
    by_cases h1 : k' = k
    · subst h1
      rw [erase_cons_eq, erase_of_get_none m k' hn]; rfl
    · rw [get_cons, if_neg h1] at h
      rw [erase_cons_ne _ _ _ _ h1, List.length_cons, ih hw h]; rfl

/-! #### `set` -/

theorem mem_set (m : AMap K α) (k : K) (v : α) (p : K × α) : p ∈ set m k v ↔ p = (k, v) ∨ (p ∈ m ∧ p.1 ≠ k) := by
  simp [set, mem_erase]

theorem get_set (m : AMap K α) (k k' : K) (v : α) :
    get (set m k v) k' = if k = k' then some v else get m k' := by
  rw [set, get_cons, get_erase]
  split <;> rfl

theorem get_set_of_get {m : AMap K α} {k : K} {v : α} (h : m.get k = some v) (k' : K) :
    (m.set k v).get k' = m.get k' := by
  rw [get_set]
  split
  · subst_vars; exact h.symm
  · rfl

theorem WF_set (m : AMap K α) (k : K) (v : α) (h : WF m) : WF (set m k v) :=
  (WF_cons k v _).mpr ⟨get_erase_self m k, WF_erase m k h⟩

theorem length_set_of_get_none (m : AMap K α) (k : K) (v : α) (h : get m k = none) :
    (set m k v).length = m.length + 1 := by
  rw [set, erase_of_get_none m k h]; rfl

theorem length_set_of_get_some (m : AMap K α) (hw : WF m) (k : K) (v old : α) (h : get m k = some old) :
    (set m k v).length = m.length := by
  rw [set, List.length_cons, length_erase_of_get_some m hw k old h]

/-! #### the interface operations are `get`, `set` and `erase` -/

theorem load_eq [Inhabited α] (m : AMap K α) (k : K) : load m k = ((get m k).getD default, (get m k).isSome) := by
  unfold load; cases get m k <;> rfl

theorem compute_eq [Inhabited α] (m : AMap K α) (k : K) (g : Option α → α × Bool) :
    compute m k g =
      if (g (get m k)).2 then (erase m k, ((get m k).getD default, false))
      else (set m k (g (get m k)).1, ((g (get m k)).1, true)) := by
  unfold compute
  cases h : get m k with
  | none => rw [erase_of_get_none m k h]; rfl
  | some old => rfl

theorem get_compute [Inhabited α] (m : AMap K α) (k k' : K) (g : Option α → α × Bool) :
    get (compute m k g).1 k' =
      if k = k' then (if (g (get m k)).2 then none else some (g (get m k)).1) else get m k' := by
  rw [compute_eq]
  split <;> simp only [get_erase, get_set]

theorem WF_compute [Inhabited α] (m : AMap K α) (k : K) (g : Option α → α × Bool) (h : WF m) : WF (compute m k g).1 := by
  rw [compute_eq]
  split
  · exact WF_erase m k h
  · exact WF_set m k _ h

/-- the shape of three closures of the cache layer: `get`'s double check, the conditional delete of `DeleteExpired`, the
unconditional one of `GetAndDelete` -/
theorem compute_keepIf [Inhabited α] (m : AMap K α) (k : K) (f : Option α → α × Bool) (keep : α → Bool)
    (h0 : (f none).2 = true) (h1 : ∀ i, f (some i) = if keep i then (i, false) else (default, true)) :
    m.compute k f =
      match m.get k with
      | none => (m, (default, false))
      | some i => if keep i then (m.set k i, (i, true)) else (m.erase k, (i, false)) := by
  unfold compute
  cases m.get k with
  | none => simp only [h0, if_true]
  | some i => simp only [h1]; cases keep i <;> rfl

theorem compute_delete [Inhabited α] (m : AMap K α) (k : K) : (m.compute k fun _ => (default, true)).1 = m.erase k := by
  rw [compute_eq]; rfl

theorem loadOrStore_eq (m : AMap K α) (k : K) (v : α) :
    loadOrStore m k v = (if (get m k).isSome then m else set m k v, ((get m k).getD v, (get m k).isSome)) := by
  unfold loadOrStore; cases get m k <;> rfl

theorem loadAndStore_eq (m : AMap K α) (k : K) (v : α) :
    loadAndStore m k v = (set m k v, ((get m k).getD v, (get m k).isSome)) := by
  unfold loadAndStore; cases get m k <;> rfl

theorem loadAndDelete_eq [Inhabited α] (m : AMap K α) (k : K) :
    loadAndDelete m k = (erase m k, ((get m k).getD default, (get m k).isSome)) := by
  unfold loadAndDelete
  cases h : get m k with
  | none => rw [erase_of_get_none m k h]; rfl
  | some old => rfl

end AMap
end Spec
