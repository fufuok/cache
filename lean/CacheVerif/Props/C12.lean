import CacheVerif.Props.C11
import CacheVerif.Proofs.Twin
import CacheVerif.Proofs.DeepCache
import CacheVerif.Proofs.DeepCacheOf
import CacheVerif.Proofs.DeepLoadM
/-!
# C12 — Cache and CacheOf, Map and MapOf are observationally identical twins

* `Model.Cache` and `Model.CacheOf` are separate transcriptions of `xsync_map.go` / `xsync_mapof.go` over
  separately generated leaves (`item.expired` vs `itemOf.expired`, `expiration` twice, `configDefault` twice);
  they are proved extensionally equal, for every constructor variant, call sequence and clock schedule.
* `Map` and `MapOf` have different bucket widths, thresholds and shrink triggers; they are equal only through
  the builtin-map semantics both refine (C11), whatever the two hash functions and seed streams are.
* On the printed source: the method bodies of the two cache-layer files mean the same (`C12_source_step`), and the
  `Load` of the two tables answer alike on heaps that hold the same association (`C12_source_loads_agree`).
-/
namespace Props.C12
open Spec Model Model.Table Proofs.TableRefine Props.C11

section cache
variable {K V : Type} [DecidableEq K] [Inhabited V]

/-- every call: equal results, equal evicted callbacks, equal user-function invocations, equal contents -/
theorem C12_cache_step (s : CSt K V) (op : Op K V) : CacheOf.step s op = Cache.step s op :=
  Proofs.Twin.step_eq s op

/-- every call sequence (including clock advances) -/
theorem C12_cache_run (s : CSt K V) (ops : List (Op K V)) : CacheOf.run s ops = Cache.run s ops :=
  Proofs.Twin.run_eq s ops

/-- **the two source files mean the same thing.**  The method bodies of `xsync_map.go` and `xsync_mapof.go`, as
printed from the working tree (`tools/go2deep`) and run by the interpreter of the Go subset, give the same state,
result, user-function invocations and evicted callbacks for every state and every call; and so for every call
sequence.  (Each side equals its hand-written model by `deep_step`; the models are equal by `C12_cache_step`.) -/
theorem C12_source_step (s : CSt K V) (op : Op K V) :
    Deep.deepStep Deep.twinMapOf s op = Deep.deepStep Deep.twinMap s op := by
  rw [DeepCache.deep_step, DeepCacheOf.deep_step, Proofs.Twin.step_eq]

theorem C12_source_run (s : CSt K V) (ops : List (Op K V)) :
    Deep.deepRun Deep.twinMapOf s ops = Deep.deepRun Deep.twinMap s ops := by
  rw [DeepCache.deep_run, DeepCacheOf.deep_run, Proofs.Twin.run_eq]

/-- every constructor variant (`New`/`NewOf` with any options, `NewDefault`/`NewOfDefault`): equal initial
state and equal decision whether a janitor is started -/
theorem C12_cache_construct (c : Cache.Ctor) (now : Int) :
    CacheOf.construct (K := K) (V := V) c now = Cache.construct c now :=
  Proofs.Twin.construct_eq c now

end cache

section map
variable {K V : Type} [DecidableEq K] [Inhabited V]

def isRange : MOp K V → Bool
  | .range _ => true
  | _ => false

/-- along a run without `Range`, the table's answers are exactly the builtin map's -/
theorem outs_eq_spec (ops : List (MOp K V)) : ∀ (sp : AMap K V) (rs : List (MRes K V)),
    RunRel sp ops rs → (∀ op ∈ ops, isRange op = false) →
    rs.map (fun r => (r.out, r.fnCalls)) = (specRun sp ops).2 := by
  induction ops with
  | nil => intro sp rs h _; cases rs with | nil => rfl | cons _ _ => exact h.elim
  | cons op ops ih =>
    intro sp rs h hn
    cases rs with
    | nil => exact h.elim
    | cons r rs =>
      obtain ⟨h1, h2, h3⟩ := h
      have : r.out = (specStep sp op).2.1 := by
        cases op with
        | range f => exact nomatch hn _ List.mem_cons_self
        | _ => exact h1
      simp only [List.map_cons, specRun]
      rw [ih _ rs h3 (fun o ho => hn o (List.mem_cons_of_mem _ ho)), this, h2]

/-- **Map ≡ MapOf**: same call sequence, arbitrary (different) hash functions, seed streams, presize hints
and grow-only flags: equal results and equal user-function invocation counts, call by call. (`Range` results
are equal up to the unspecified enumeration order, by `C11_Map` / `C11_MapOf`.) -/
theorem C12_map (env₁ env₂ : Env K) (hint₁ hint₂ : Int) (go₁ go₂ : Bool) (ops : List (MOp K V))
    (h₁ : 0 < (new (V := V) mapVariant env₁ hint₁ go₁).tbl.len)
    (h₂ : 0 < (new (V := V) mapOfVariant env₂ hint₂ go₂).tbl.len)
    (hn : ∀ op ∈ ops, isRange op = false) :
    (run mapVariant env₁ (new mapVariant env₁ hint₁ go₁) ops).2.map (fun r => (r.out, r.fnCalls)) =
    (run mapOfVariant env₂ (new mapOfVariant env₂ hint₂ go₂) ops).2.map (fun r => (r.out, r.fnCalls)) := by
  rw [outs_eq_spec ops [] _ (C11_Map env₁ hint₁ go₁ ops h₁) hn, outs_eq_spec ops [] _ (C11_MapOf env₂ hint₂ go₂ ops h₂) hn]

/-- and equal contents afterwards: both tables hold exactly the builtin map's bindings -/
theorem C12_map_contents (env₁ env₂ : Env K) (hint₁ hint₂ : Int) (go₁ go₂ : Bool) (ops : List (MOp K V))
    (h₁ : 0 < (new (V := V) mapVariant env₁ hint₁ go₁).tbl.len)
    (h₂ : 0 < (new (V := V) mapOfVariant env₂ hint₂ go₂).tbl.len) (k : K) :
    tget mapVariant env₁ (run mapVariant env₁ (new mapVariant env₁ hint₁ go₁) ops).1.tbl k =
    tget mapOfVariant env₂ (run mapOfVariant env₂ (new mapOfVariant env₂ hint₂ go₂) ops).1.tbl k := by
  have a := (C11_run mapVariant mapVariant_good env₁ ops [] _ (new_sim mapVariant env₁ hint₁ go₁ h₁)).1
  have b := (C11_run mapOfVariant mapOfVariant_good env₂ ops [] _ (new_sim mapOfVariant env₂ hint₂ go₂ h₂)).1
  rw [← a.get k, ← b.get k]

end map

/-! ### Non-vacuity -/
example : (Cache.step (K := String) (V := Nat) ⟨[("a", ⟨1, 50⟩)], 100, 10, some 1⟩ (.getAndDelete "a")).2.cbs = [(1, "a", 1)] := by decide
example : (CacheOf.step (K := String) (V := Nat) ⟨[("a", ⟨1, 50⟩)], 100, 10, some 1⟩ (.getAndDelete "a")).2.cbs = [(1, "a", 1)] := by decide

/-! ### the lookup paths of the two tables, printed from the source, agree -/

/-- **`Map.Load` and `MapOf.Load` mean the same**: on heaps that hold the same key/value association in the chains the
key is sent to - whatever the bucket sizes (3 / 5 slots), the packed words (20-bit top hashes / 7-bit `meta` bytes), the
hash functions, seeds and chain shapes - the interpreter on the two printed texts returns the same answer -/
theorem C12_source_loads_agree {K V : Type} [DecidableEq K] (fuel : Nat) (hf : 8 ≤ fuel) (h hm : Deep.T.Heap K V) (key : K)
    (c : List (Model.Words.BucketOf K V)) (cm : List (Model.Words.BucketM K V))
    (hc : h.chains[(Proofs.DeepLoad.bidxOf h key).toNat]? = some c) (hne : c ≠ []) (hfuel : c.length ≤ fuel)
    (hrep : ∀ b ∈ c, Model.Words.RepB (Proofs.DeepLoad.hkOf h) b)
    (hcm : hm.mchains[(Proofs.DeepLoadM.mbidxOf hm key).toNat]? = some cm) (hnem : cm ≠ []) (hfuelm : cm.length ≤ fuel)
    (hrepm : ∀ b ∈ cm, Model.Words.RepM (Proofs.DeepLoadM.mhashOf hm) b)
    (hsame : Model.Table.lookup key (Model.Words.flat c) = Model.Table.lookup key (Model.Words.flatM cm)) :
    Deep.T.call fuel h Gen.Deep.T_MapOf_Load [.key key] = Deep.T.call fuel hm Gen.Deep.T_Map_Load [.key key] := by
  rw [Proofs.DeepLoad.load_eq_lookup fuel hf h key c hc hne hfuel hrep,
    Proofs.DeepLoadM.mload_eq_lookup fuel (by omega) hm key cm hcm hnem hfuelm hrepm, hsame]
  cases Model.Table.lookup key (Model.Words.flatM cm) <;> rfl

end Props.C12
