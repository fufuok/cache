import CacheVerif.Proofs.CacheLedger
import CacheVerif.Model.CacheOf
import CacheVerif.Proofs.Twin
import CacheVerif.Proofs.ConcCacheLin
import CacheVerif.Proofs.DeepSource
/-!
# C06 — the evicted callback fires exactly once per removed entry, with that very entry

First the sequential part (`Model.Cache`), then the concurrent part (`C06_conc_*`, about M5 `Model.ConcCache`: any
number of threads, any schedule, clock ticks at any moment).  `Res.cbs` is the ledger of one call: the
evicted-callback invocations it made (callback id, key, value), in order.  The statements are about the physical
content `s.items` of `Model.Cache` (an expired entry that is still stored is an entry; removing it fires the callback).
-/
namespace Props.C06
open Spec Model Model.Cache Proofs.CacheLedger

variable {K V : Type} [DecidableEq K] [Inhabited V]

/-- **C06 (GetAndDelete).** The callback fires exactly when the key was physically present and a callback is
installed, once, with the key and the very value that was removed; afterwards the key is gone and every other
binding is unchanged. -/
theorem C06_getAndDelete (s : St K V) (k : K) :
    (step s (.getAndDelete k)).2.cbs =
      (match s.items.get k, s.cb with
       | some i, some c => [(c, k, i.v)]
       | _, _ => []) ∧
    (step s (.getAndDelete k)).1.items.get k = none ∧
    ∀ k', k' ≠ k → (step s (.getAndDelete k)).1.items.get k' = s.items.get k' :=
  ⟨getAndDelete_cbs s k, getAndDelete_items s k⟩

/-- **C06 (Delete).** Same ledger and same effect as `GetAndDelete`. -/
theorem C06_delete (s : St K V) (k : K) :
    (step s (.delete k)).2.cbs =
      (match s.items.get k, s.cb with
       | some i, some c => [(c, k, i.v)]
       | _, _ => []) ∧
    (step s (.delete k)).1.items.get k = none ∧
    ∀ k', k' ≠ k → (step s (.delete k)).1.items.get k' = s.items.get k' :=
  ⟨getAndDelete_cbs s k, getAndDelete_items s k⟩

/-- **A loaded `GetAndDelete` returns the value it removed** — hence, with a callback installed, the value it
fires (`C06_getAndDelete`) is the value it returns. -/
theorem C06_getAndDelete_loaded (s : St K V) (k : K) (v : V)
    (h : (step s (.getAndDelete k)).2.out = .val v true) : ∃ e, s.items.get k = some ⟨v, e⟩ := by
  simp only [step, getAndDelete] at h
  split at h
  · cases h
  · next i hg =>
    split at h <;> cases h
    exact ⟨i.e, hg⟩

/-- **C06 (DeleteExpired).** On a duplicate-free map, one pass fires the callback in force for exactly the
entries that are expired at the call's clock, with their own key and value; at most once per key; every fired
entry is gone afterwards and every entry that is not expired is still there with the same item. -/
theorem C06_deleteExpired (s : St K V) (hw : AMap.WF s.items) :
    (∀ c k v, (c, k, v) ∈ (step s .deleteExpired).2.cbs ↔
      (s.cb = some c ∧ ∃ i, s.items.get k = some i ∧ i.v = v ∧ TTL.expired i.e s.now = true)) ∧
    ((step s .deleteExpired).2.cbs.map (·.2.1)).Nodup ∧
    (∀ k, (step s .deleteExpired).1.items.get k =
      match s.items.get k with
      | some i => if TTL.expired i.e s.now then none else some i
      | none => none) := by
  refine ⟨fun c k v => ?_, ?_, deleteExpired_get s hw⟩ <;> rw [deleteExpired_cbs s hw] <;> cases s.cb
  · simp
  · simp only [List.mem_map, Prod.exists, mem_deadAt hw, Prod.mk.injEq, Option.some.injEq]
    exact ⟨fun ⟨k', i, ⟨hg, he⟩, hc, hk, hv⟩ => ⟨hc, i, hk ▸ hg, hv, he⟩,
      fun ⟨hc, i, hg, hv, he⟩ => ⟨k, i, ⟨hg, he⟩, hc, rfl, hv⟩⟩
  · exact List.nodup_nil
  · simp only [List.map_map]
    exact List.Nodup.sublist (AMap.keys_vfilter_sublist s.items _) hw

/-! ### The same, for the source text (`Gen.Deep.*`, printed from the working tree on every run)

`DeepCache.deep_step` / `DeepCacheOf.deep_step`: the interpreter of the Go subset, run on the generated method
bodies, computes exactly `step`; so the statements above hold of the text of the two files. -/

/-- **C06 for the text of `GetAndDelete` / `Delete` in both files.** -/
theorem C06_source_getAndDelete (s : St K V) (k : K) (T : Deep.Twin K V) (hT : DeepSource.IsTwin T) :
    ∃ s' r, Deep.deepStep T s (.getAndDelete k) = some (s', r) ∧
      r.cbs = (match s.items.get k, s.cb with
               | some i, some c => [(c, k, i.v)]
               | _, _ => []) ∧
      s'.items.get k = none ∧ ∀ k', k' ≠ k → s'.items.get k' = s.items.get k' :=
  ⟨_, _, DeepSource.step s _ T hT, C06_getAndDelete s k⟩

/-- **C06 for the text of `DeleteExpired` in both files**: exactly the entries expired at the call's clock are
reported, once each, to the callback in force, and exactly they are gone afterwards. -/
theorem C06_source_deleteExpired (s : St K V) (hw : AMap.WF s.items) (T : Deep.Twin K V)
    (hT : DeepSource.IsTwin T) :
    ∃ s' r, Deep.deepStep T s .deleteExpired = some (s', r) ∧
      (∀ c k v, (c, k, v) ∈ r.cbs ↔
        (s.cb = some c ∧ ∃ i, s.items.get k = some i ∧ i.v = v ∧ TTL.expired i.e s.now = true)) ∧
      (r.cbs.map (·.2.1)).Nodup ∧
      (∀ k, s'.items.get k = match s.items.get k with
        | some i => if TTL.expired i.e s.now then none else some i
        | none => none) :=
  ⟨_, _, DeepSource.step s _ T hT, C06_deleteExpired s hw⟩

def removes : Op K V → Bool
  | .getAndDelete _ => true
  | .delete _ => true
  | .deleteExpired => true
  | _ => false

/-- **C06 (no spurious callback).** Every call other than `GetAndDelete`, `Delete`, `DeleteExpired` — in
particular every read with its lazy deletion, `Set` over an existing key, `Compute` deleting, `Clear` — fires
nothing. -/
theorem C06_silent (s : St K V) (op : Op K V) (h : removes op = false) : (step s op).2.cbs = [] := by
  cases op <;> cases h <;> simp only [step] <;> (repeat' split) <;> rfl

/-- **C06 (callback in force).** Every fired entry carries the callback id installed at the time of the call. -/
theorem C06_callback_in_force (s : St K V) (op : Op K V) :
    ∀ x ∈ (step s op).2.cbs, s.cb = some x.1 := by
  intro x hx
  cases op
  case getAndDelete k | delete k =>
    simp only [step, getAndDelete_cbs] at hx
    split at hx
    · cases List.mem_singleton.1 hx; assumption
    · cases hx
  case deleteExpired =>
    simp only [step] at hx
    split at hx
    · obtain ⟨p, _, rfl⟩ := List.mem_map.1 hx; assumption
    · cases hx
  all_goals rw [C06_silent s _ rfl] at hx; cases hx

/-- the generic twin takes the same steps (so every statement above holds for `CacheOf` too) -/
theorem C06_twin (s : Cache.St K V) (op : Op K V) : Model.CacheOf.step s op = Model.Cache.step s op :=
  Proofs.Twin.step_eq s op

/-! ### Non-vacuity: a concrete state with a live, two expired-uncleaned and a never-expiring entry -/

def exS : Cache.St String Nat :=
  { items := [("live", ⟨1, 200⟩), ("dead", ⟨2, 50⟩), ("forever", ⟨3, 0⟩), ("dead2", ⟨4, 99⟩)], now := 100, dflt := 10, cb := some 7 }

example : AMap.WF exS.items := by simp [exS, AMap.WF, AMap.keys]
example : (Cache.step exS .deleteExpired).2.cbs = [(7, "dead", 2), (7, "dead2", 4)] := by decide
example : (Cache.step exS .deleteExpired).1.items = [("live", ⟨1, 200⟩), ("forever", ⟨3, 0⟩)] := by decide
example : (Cache.step (Cache.step exS .deleteExpired).1 .deleteExpired).2.cbs = [] := by decide
example : (Cache.step exS (.getAndDelete "live")).2 = { out := .val 1 true, cbs := [(7, "live", 1)] } := by decide
example : (Cache.step exS (.delete "absent")).2.cbs = [] := by decide
example : (Cache.step (Cache.step exS (.setEvictedCallback none)).1 (.delete "live")).2.cbs = [] := by decide
example : (Cache.step exS (.get "dead")).2.cbs = [] ∧ (Cache.step exS (.get "dead")).1.items.get "dead" = none := by decide

/-! ## Concurrent part (M5, `Model.ConcCache`): every schedule

`g.ledger` is the global log of callback invocations; per thread and call, ghost `erased` lists the entries the
call's own `Compute`s physically removed from the map and ghost `fired` the entries it invoked the callback with,
both in order; `ec` is the callback the call read. -/
section Conc
open Proofs.ConcCacheLin

/-- **Every callback invocation reports an entry the calling thread removed earlier in the same call.**  A step
leaves the ledger unchanged or appends exactly one invocation `(cb, k, v)`: it is a firing step of
`GetAndDelete`/`Delete` (`gdFire`) or of `DeleteExpired` (`deFire`), `cb` is the callback the call read, `(k, v)` is in
the list of entries this very call removed, and the step removes nothing. -/
theorem C06_conc_ledger_only_removed (dflt : Int) (cb : Option Nat) (now : Int) (h0 : 0 ≤ now)
    (s s' : ConcCache.St K V) (t : ConcCache.Tid) (c : ConcCache.Choice K V) (δ : Nat)
    (hr : ConcCache.Reach dflt cb now s) (hs : ConcCache.step s (some t) c δ = some s') :
    s'.g.ledger = s.g.ledger ∨
    ∃ cb k v, s'.g.ledger = s.g.ledger ++ [(cb, k, v)] ∧ (s.l t).ec = some cb ∧ (k, v) ∈ (s.l t).erased ∧
      s'.g.items = s.g.items ∧
      (((s.l t).pc = .gdFire ∧ ConcCache.opKey (s.l t) = some k ∧ ∃ i, (s.l t).removed = some i ∧ i.v = v) ∨
       ((s.l t).pc = .deFire ∧ ∃ rest, (s.l t).queue = (k, v) :: rest ∧ (s'.l t).queue = rest)) := by
  obtain ⟨_, hl, hst, _, _⟩ := reach_tstep h0 hr hs
  exact ledger_only_removed hl hst

/-- a clock tick fires nothing and changes no thread's locals -/
theorem C06_conc_tick_silent (s s' : ConcCache.St K V) (c : ConcCache.Choice K V) (δ : Nat)
    (hs : ConcCache.step s none c δ = some s') : s'.g.ledger = s.g.ledger ∧ s'.l = s.l := by
  cases Proofs.ConcCacheStep.step_none hs
  exact ⟨rfl, rfl⟩

/-- **An entry enters a call's `erased` list only by being physically removed by that call.**  A step leaves the
stepping thread's `erased` list unchanged, or resets it at the start of a new call, or extends it by one `(k, i.v)` at
the `Compute` of `GetAndDelete`/`Delete` or of `DeleteExpired`, and then `k ↦ i` was in the map before that very step
and `k` is absent after it. -/
theorem C06_conc_removal_is_physical (dflt : Int) (cb : Option Nat) (now : Int) (h0 : 0 ≤ now)
    (s s' : ConcCache.St K V) (t : ConcCache.Tid) (c : ConcCache.Choice K V) (δ : Nat)
    (hr : ConcCache.Reach dflt cb now s) (hs : ConcCache.step s (some t) c δ = some s') :
    (s'.l t).erased = (s.l t).erased ∨ ((s.l t).pc = .idle ∧ (s'.l t).erased = []) ∨
    ∃ k i, ((s.l t).pc = .gdCompute ∨ (s.l t).pc = .deCompute) ∧ (s'.l t).erased = (s.l t).erased ++ [(k, i.v)] ∧
      s.g.items.get k = some i ∧ s'.g.items.get k = none :=
  erased_step (reach_tstep h0 hr hs).2.2.1

/-- **Per call, what fired is exactly what was removed — once each, in order.**  A thread about to return
(`pc = ret`) is returning from some call `op`, and:
* if `op` is `GetAndDelete`, `Delete` or `DeleteExpired` (also the janitor's pass): when the call read a callback
  (`ec = some _`), the list of entries it invoked the callback with *is* the list of entries it physically
  removed; when it read that no callback is installed, it fired nothing.  (`GetAndDelete`/`Delete` read the callback
  only after having removed an entry: for a call that found the key absent `ec` is whatever an earlier call of the
  thread left there, and then both lists are empty — `C06_conc_getAndDelete_at_ret`.)
* every other call — `Set`, the read-modify-write calls, `Clear`, the setters, and the `Get` family whose lazy
  expiry delete removes an expired entry *without* callback — fired nothing, and removed nothing through the
  callback paths. -/
theorem C06_conc_fired_eq_erased_at_ret (dflt : Int) (cb : Option Nat) (now : Int) (h0 : 0 ≤ now)
    (s : ConcCache.St K V) (hr : ConcCache.Reach dflt cb now s) (t : ConcCache.Tid) (hpc : (s.l t).pc = .ret) :
    ∃ op, (s.l t).op = some op ∧
      (isRemoval op = true →
        match (s.l t).ec with
        | some _ => (s.l t).fired = (s.l t).erased
        | none => (s.l t).fired = []) ∧
      (isRemoval op = false → (s.l t).fired = [] ∧ (s.l t).erased = []) := by
  have hf := fi_reach h0 hr t
  have hne : (s.l t).pc ≠ .idle := by rw [hpc]; nofun
  obtain ⟨op, ho⟩ := hf.hasOp hne
  refine ⟨op, ho, fun h => ?_, hf.other hne op ho⟩
  have := hf.ret hpc op ho h
  cases hec : (s.l t).ec with
  | none => exact this.2 hec
  | some cb' => exact this.1 cb' hec

/-- a `GetAndDelete`/`Delete` about to return removed nothing and fired nothing when the key was absent, and
otherwise removed exactly one entry: its key with the value it found -/
theorem C06_conc_getAndDelete_at_ret (dflt : Int) (cb : Option Nat) (now : Int) (h0 : 0 ≤ now)
    (s : ConcCache.St K V) (hr : ConcCache.Reach dflt cb now s) (t : ConcCache.Tid) (hpc : (s.l t).pc = .ret)
    (k : K) (ho : (s.l t).op = some (.getAndDelete k) ∨ (s.l t).op = some (.delete k)) :
    match (s.l t).removed with
    | none => (s.l t).fired = [] ∧ (s.l t).erased = []
    | some i => (s.l t).erased = [(k, i.v)] := by
  obtain ⟨op, ho, hc, hk⟩ : ∃ op, (s.l t).op = some op ∧ opCls op = .gd ∧ opKeyOf (some op) = some k := by
    rcases ho with ho | ho <;> exact ⟨_, ho, rfl, rfl⟩
  have := (fi_reach h0 hr t).retGd hpc op ho hc
  cases hrm : (s.l t).removed with
  | none => exact this.1 hrm
  | some i =>
    obtain ⟨k', hk', he⟩ := this.2 i hrm
    rw [opKey_eq_of, ho, hk] at hk'
    cases hk'
    exact he

/-- **While a call is running, what has fired so far is a prefix of what it removed** (every reachable state).
`GetAndDelete`/`Delete`: nothing has fired before the firing step, and once the `Compute` removed an entry the
call removed exactly that one.  `DeleteExpired`: during the traversal and the firing loop, if the pass read a
callback then fired ++ still-to-fire = removed; if it read none (then the model queues nothing) nothing fires. -/
theorem C06_conc_fired_prefix (dflt : Int) (cb : Option Nat) (now : Int) (h0 : 0 ≤ now)
    (s : ConcCache.St K V) (hr : ConcCache.Reach dflt cb now s) (t : ConcCache.Tid) :
    ((s.l t).pc = .gdCompute → (s.l t).fired = [] ∧ (s.l t).erased = []) ∧
    (((s.l t).pc = .gdReadCb ∨ (s.l t).pc = .gdFire) → (s.l t).fired = [] ∧
        ∃ k i, ConcCache.opKey (s.l t) = some k ∧ (s.l t).removed = some i ∧ (s.l t).erased = [(k, i.v)]) ∧
    (((s.l t).pc = .deReadCb ∨ (s.l t).pc = .deReadClock) → (s.l t).fired = [] ∧ (s.l t).erased = []) ∧
    (((s.l t).pc = .deVisit ∨ (s.l t).pc = .deCompute ∨ (s.l t).pc = .deFire) →
        match (s.l t).ec with
        | some _ => (s.l t).fired ++ (s.l t).queue = (s.l t).erased
        | none => (s.l t).fired = [] ∧ (s.l t).queue = []) :=
  fired_prefix (fi_reach h0 hr t)

/-- **The ledger and the per-call `fired` lists move together.**  A step appends an invocation `(cb, k, v)` to the
global ledger if and only if it appends `(k, v)` to the stepping thread's `fired` list; then `cb` is the callback the
call read; no other thread's locals change. -/
theorem C06_conc_ledger_fired_coupled (dflt : Int) (cb : Option Nat) (now : Int) (h0 : 0 ≤ now)
    (s s' : ConcCache.St K V) (t : ConcCache.Tid) (c : ConcCache.Choice K V) (δ : Nat)
    (hr : ConcCache.Reach dflt cb now s) (hs : ConcCache.step s (some t) c δ = some s') (k : K) (v : V) :
    ((∃ cb, s'.g.ledger = s.g.ledger ++ [(cb, k, v)]) ↔ (s'.l t).fired = (s.l t).fired ++ [(k, v)]) ∧
    (∀ cb, s'.g.ledger = s.g.ledger ++ [(cb, k, v)] → (s.l t).ec = some cb) ∧
    (∀ u, u ≠ t → s'.l u = s.l u) := by
  obtain ⟨_, _, hst, hoth, _⟩ := reach_tstep h0 hr hs
  exact ⟨(ledger_fired_coupled hst k v).1, (ledger_fired_coupled hst k v).2, hoth⟩

/-! ### Non-vacuity: `DeleteExpired` (thread 0) racing `GetAndDelete "live"` (thread 1), callback 7 installed,
one expired and one live entry; both calls end at `ret`, each fired exactly what it removed.  The traversal is free
(`Choice.key`): thread 0 is handed "dead" twice (the second time with a stale snapshot of the entry it has already
removed: the conditional delete finds nothing, nothing is removed or fired twice), "live" with a stale copy after
thread 1 removed it, and "late", a key stored by thread 2 *after* the pass began (live w.r.t. the pass's clock: left
alone) -/
def exConc : List (Option ConcCache.Tid × ConcCache.Choice String Nat × Nat) :=
  [ (some 2, { op := some (.set "dead" 1 5) }, 0), (some 2, {}, 0), (some 2, {}, 0), (some 2, {}, 0),
    (some 2, { op := some (.set "live" 2 100) }, 0), (some 2, {}, 0), (some 2, {}, 0), (some 2, {}, 0),
    (none, {}, 6),                                                                   -- "dead" expires
    (some 0, { op := some .deleteExpired }, 0), (some 0, {}, 0), (some 0, {}, 0),    -- T0 reads callback, clock
    (some 0, { key := some "dead", seen := some ⟨1, 5⟩ }, 0),                        -- T0 visits "dead": expired
    (some 1, { op := some (.getAndDelete "live") }, 0), (some 1, {}, 0),             -- T1 removes "live"
    (some 0, {}, 0),                                                                 -- T0 removes "dead"
    (some 1, {}, 0), (some 1, {}, 0),                                                -- T1 reads callback, fires
    (some 0, { key := some "dead", seen := some ⟨1, 5⟩ }, 0), (some 0, {}, 0),       -- T0 meets "dead" again (stale copy): gone, no-op
    (some 0, { key := some "live", seen := some ⟨2, 100⟩ }, 0),                      -- T0 visits "live" (stale copy): live
    (some 2, { op := some (.set "late" 3 50) }, 0), (some 2, {}, 0), (some 2, {}, 0),-- T2 stores "late" after the pass began
    (some 0, { key := some "late", seen := some ⟨3, 56⟩ }, 0),                       -- T0 visits "late": live at the pass's clock
    (some 0, {}, 0), (some 0, {}, 0), (some 0, {}, 0) ]                              -- T0 ends traversal, fires, done

example : ∃ s, ConcCache.run (ConcCache.init 10 (some 7) 0) exConc = some s ∧
    s.g.ledger = [(7, "live", 2), (7, "dead", 1)] ∧ s.g.items = [("late", ⟨3, 56⟩)] ∧
    (s.l 0).pc = .ret ∧ (s.l 0).op = some .deleteExpired ∧ (s.l 0).ec = some 7 ∧
    (s.l 0).fired = [("dead", 1)] ∧ (s.l 0).erased = [("dead", 1)] ∧
    (s.l 1).pc = .ret ∧ (s.l 1).op = some (.getAndDelete "live") ∧ (s.l 1).ec = some 7 ∧
    (s.l 1).fired = [("live", 2)] ∧ (s.l 1).erased = [("live", 2)] ∧ (s.l 1).result = some (.val 2 true) :=
  ⟨_, rfl, by decide, by decide, by decide, rfl, by decide, by decide, by decide, by decide, rfl,
    by decide, by decide, by decide, by decide⟩

end Conc

end Props.C06
