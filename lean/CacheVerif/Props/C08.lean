import CacheVerif.Proofs.CacheLedger
import CacheVerif.Proofs.TableRefine
import CacheVerif.Proofs.ProtoLin
import CacheVerif.Proofs.DeepSource
import CacheVerif.Proofs.DeepSize
/-!
# C08 — Size / Count is exact whenever no modification is in flight

Cache layer (`Model.Cache`): `Count` reports the number of keys physically stored (expired entries that have not
been cleaned up yet are counted — it never under-reports the live entries), it equals the number of live entries right
after `DeleteExpired`, and it is `0` right after `Clear`.
Table layer (`Model.Table`, both variants): between calls the striped counter read by `Size` equals the
number of bindings of the reference map, which is the number of pairs a full `Range` visits.
Protocol layer (M4a): the counter invariant of every table generation, its exactness in quiescent states, and the
exactness of a `Size` call that no modifying call overlaps.
Source: the printed `sumSize` of both tables returns the sum of the counter stripes.
-/
set_option linter.unusedSectionVars false
namespace Props.C08
open Spec Model Model.Cache Proofs.CacheLedger

variable {K V : Type} [DecidableEq K] [Inhabited V]

/-- **C08 (Count).** `Count` reports the number of keys physically present. -/
theorem C08_count (s : St K V) : (step s .count).2.out = .count s.items.length := rfl

/-- **Count never under-reports**: the live (stored and not expired) entries are among the counted ones. -/
theorem C08_count_ge_live (s : St K V) : (Proofs.CacheRefine.abs s).live.length ≤ s.items.length := by
  simp only [Proofs.CacheRefine.abs, AMap.vfilter]
  exact List.length_filter_le _ _

/-- **C08 (after cleanup).** Right after `DeleteExpired` the count equals the number of live entries. -/
theorem C08_after_deleteExpired (s : St K V) (hw : Proofs.CacheRefine.WF s) :
    (step s .deleteExpired).1.items.length = (Proofs.CacheRefine.abs s).live.length := by
  exact (AMap.perm_of_get_eq _ _ (deleteExpired_WF s hw.nodup) (Proofs.CacheRefine.sim_abs s hw).awf fun k =>
    (deleteExpired_get s hw.nodup k).trans (Proofs.CacheRefine.abs_get s hw k).symm).length_eq

theorem C08_count_after_deleteExpired (s : St K V) (hw : Proofs.CacheRefine.WF s) :
    (step (step s .deleteExpired).1 .count).2.out = .count (Proofs.CacheRefine.abs s).live.length := by
  rw [C08_count, C08_after_deleteExpired s hw]

/-- **C08 (after Clear).** Right after `Clear` nothing is stored and `Count` reports 0. -/
theorem C08_after_clear (s : St K V) :
    (step s .clear).1.items.length = 0 ∧ (step (step s .clear).1 .count).2.out = .count 0 :=
  ⟨rfl, rfl⟩

/-- the same for the text of `Count` in both cache-layer files: the number of entries physically present (expired
but not yet cleaned ones included), nothing modified -/
theorem C08_source_count (s : St K V) (T : Deep.Twin K V) (hT : DeepSource.IsTwin T) :
    Deep.deepStep T s .count = some (s, { out := .count s.items.length }) := by
  rw [DeepSource.step s _ T hT]; rfl

/-! ### the hash tables -/
section table
open Model.Table Proofs.TableRefine

-- `hv` is not needed for `Size` itself; it is kept so that the hypotheses are those of `step_refines`
set_option linter.unusedVariables false in
/-- **C08 (Size).** Between calls, `Size` of either table is the number of bindings of the reference map. -/
theorem C08_size_exact (var : Variant) (hv : GoodVariant var) (env : Env K) (sp : AMap K V) (m : Model.Table.St K V)
    (h : Sim var env sp m) : (Model.Table.step var env m .size).2.out = .size sp.length := by
  simp only [Model.Table.step]
  rw [Sim.size_eq var env h]

set_option linter.unusedVariables false in
/-- **Size = number of pairs a full `Range` visits.** -/
theorem C08_size_eq_range (var : Variant) (hv : GoodVariant var) (env : Env K) (sp : AMap K V)
    (m : Model.Table.St K V) (h : Sim var env sp m) :
    (Model.Table.step var env m .size).2.out = .size ((Model.Table.walk (fun _ _ => true) m.tbl.entries).length) := by
  simp only [Model.Table.step]
  rw [Proofs.TableRefine.table_walk_true, h.inv.size]

end table

/-! ### Non-vacuity -/

def exS : Cache.St String Nat :=
  { items := [("live", ⟨1, 200⟩), ("dead", ⟨2, 50⟩), ("forever", ⟨3, 0⟩), ("dead2", ⟨4, 99⟩)], now := 100, dflt := 10, cb := none }

example : Proofs.CacheRefine.WF exS := ⟨by simp [exS, AMap.WF, AMap.keys], by simp [exS], by decide⟩
example : (Cache.step exS .count).2.out = .count 4 ∧ (Proofs.CacheRefine.abs exS).live.length = 2 := by decide
example : (Cache.step (Cache.step exS .deleteExpired).1 .count).2.out = .count 2 := by decide
example : (Cache.step (Cache.step exS .clear).1 .count).2.out = .count 0 := by decide

def exEnv : Model.Table.Env Nat := { hash := fun k _ => BitVec.ofNat 64 k, seeds := fun _ => 0 }

set_option maxRecDepth 4000 in
example :
    let m := (Model.Table.step Model.Table.mapOfVariant exEnv
      (Model.Table.step Model.Table.mapOfVariant exEnv (Model.Table.new Model.Table.mapOfVariant exEnv 0 false)
        (.store 5 50)).1 (.store 37 51)).1
    (Model.Table.step Model.Table.mapOfVariant exEnv m .size).2.out = .size 2 ∧
    (Model.Table.walk (fun _ _ => true) m.tbl.entries).length = 2 := by decide

/-! ### concurrent histories (M4a): the striped counter, per table generation -/
section conc
open Model.Proto Proofs.ProtoData Proofs.ProtoLin
variable {K V : Type} [DecidableEq K] (p : Params K)

/-- **counter invariant**, every reachable state, every table generation (also the one under construction): the
sum of the counter stripes (`total`: the value an *atomic* sum would give) plus the deltas of the writers that have
committed but not yet called `addSize` is the number of entries.  `hst`: every table has at least one stripe. -/
theorem C08_counter (hmin : 0 < p.minLen) (hst : ∀ n, 0 < p.stripes n) (s : Model.Proto.St K V) (h : Reach p s)
    (T : Nat) (hT : T < s.g.ntables)
    (N : Nat) (hN : ∀ u : Nat, u ≥ N → (s.l u).pc = .idle) :
    (s.g.tables T).total (p.stripes (s.g.tables T).len) + pendSum s T N = ((s.g.tables T).data.length : Int) :=
  (dinv_reach hmin h).cnt T hT hst N fun u hu => by simp [pendingOn, hN u hu]

/-- **the counter is exact whenever no call is in flight**, whatever history of concurrent inserts, deletes, grows,
shrinks and clears preceded -/
theorem C08_quiescent (hmin : 0 < p.minLen) (hst : ∀ n, 0 < p.stripes n) (s : Model.Proto.St K V) (h : Reach p s)
    (hq : ∀ u, (s.l u).pc = .idle) :
    (s.g.tables s.g.cur).total (p.stripes (s.g.tables s.g.cur).len) = ((s.g.tables s.g.cur).data.length : Int) :=
  total_exact_no_pending p hmin hst s h fun u => by simp [pendingOn, hq u]

/-- **the `Size()` call itself is exact when no modifying call overlaps it**, although it sums the stripes one atomic
load at a time: thread `t` starts `Size` in the reachable state `s0`, in which no writer is between its commit and its
`addSize` on the current table; during `mid` it stays in that call (`NoRet`) and the other threads only take read-only
steps (`roPc`: start a call, `Load`, lock-free fast path, `Size`, return); when it is about to return, it returns the
number of entries of the table -/
theorem C08_size_call_exact (hmin : 0 < p.minLen) (hst : ∀ n, 0 < p.stripes n) (s0 s' : Model.Proto.St K V)
    (h : Reach p s0) (t : Tid) (hpc : (s0.l t).pc = .szTable)
    (hq : ∀ u, pendingOn (s0.l u) s0.g.cur = false)
    (mid : List (Tid × Choice K V)) (hr : run p s0 mid = some s')
    (hn : NoRet t (events p s0 mid))
    (hro : ∀ e ∈ events p s0 mid, e.tid ≠ t → roPc (e.pre.l e.tid).pc = true)
    (hret : (s'.l t).pc = .ret) :
    (s'.l t).result = some (.size ((s0.g.tables s0.g.cur).data.length)) :=
  size_call_exact p hmin hst s0 s' h t hpc hq mid hr hn hro hret

def exP : Params Nat :=
  { growThr := fun n => n * 9 / 4, shrinkThr := fun n => n * 3 / 128, bkt := fun _ k => k, minLen := 2, growOnly := false,
    stripes := fun _ => 8 }

def exPre : List (Tid × Choice Nat Nat) :=
  (0, { op := some (.dc 1 (fun _ => (5, false)) false false) }) ::
    List.append (List.replicate 11 (0, {})) [(1, { op := some .size })]

def exMid : List (Tid × Choice Nat Nat) :=
  List.append [(1, {}), (0, { op := some (.load 1) }), (1, {}), (0, {}), (1, {}), (0, {})] (List.replicate 6 (1, {}))

/-- non-vacuity of `C08_size_call_exact`: on a map with 8 stripes holding one entry, a `Size` call of thread 1
interleaved with a `Load` of thread 0 takes 1 + 8 steps from `szTable` and returns 1 -/
example : ∃ (s0 s' : Model.Proto.St Nat Nat),
    run exP (init exP) exPre = some s0 ∧ run exP s0 exMid = some s' ∧
    (s0.l 1).pc = .szTable ∧ (s0.l 0).pc = .idle ∧ (s'.l 1).pc = .ret ∧ (s'.l 1).result = some (.size 1) ∧
    (s'.l 0).result = some (.val (some 5) true) :=
  ⟨_, _, rfl, rfl, rfl, rfl, rfl, rfl, rfl⟩

end conc

/-! ### `sumSize`, printed from the source: `Size` reports the sum of the counter stripes -/
section source

/-- **the text of `sumSize` of both tables adds up the counter stripes** (printed by `go2deep -table` on every run,
sequential meaning `Deep/TInterp.lean`): for every heap - any number of stripes, any contents - the call returns their
sum, which is what `Size()` converts and returns, what M3 keeps as `Tbl.size`, and what `C08_counter` relates to the
number of entries at quiescence -/
theorem C08_source_sumSize_is_stripe_sum {K V : Type} [DecidableEq K] (fuel : Nat) (h : Deep.T.Heap K V) :
    Deep.T.call fuel h Gen.Deep.T_mapOfTable_sumSize [] = some [.int h.stripes.sum] ∧
    Deep.T.call fuel h Gen.Deep.T_mapTable_sumSize [] = some [.int h.stripes.sum] :=
  ⟨Proofs.DeepSize.sumSize_mapOf fuel h, Proofs.DeepSize.sumSize_map fuel h⟩

/-- non-vacuity: eight stripes, one of them negative (a delete accounted on another stripe than its insert) -/
example : Deep.T.call 0 ({ chains := [], seed := 0#64, hasher := fun _ _ => 0#64, stripes := [2, 0, -1, 0, 5, 0, 0, 1] } : Deep.T.Heap Nat Nat)
    Gen.Deep.T_mapOfTable_sumSize [] = some [.int 7] := by rfl

end source

end Props.C08
