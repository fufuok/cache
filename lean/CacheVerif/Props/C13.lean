import CacheVerif.Proofs.ProtoLocks
import CacheVerif.Proofs.ProtoHold
import CacheVerif.Proofs.ProtoData
import CacheVerif.Proofs.DeepTrace
import CacheVerif.Proofs.DeepTraceOf
/-!
# C13 — every call terminates: no deadlock or lost wake-up; callbacks may re-enter

Theorems about M4a (`Model.Proto`: threads × atomic steps of `Load`, `doCompute`, `resize`, `waitForResize`,
`Range`, `Clear`, `Size`; any number of goroutines, any schedule, any keys, table sizes and chain layouts).
What they exclude: every reachable state from which progress is impossible (deadlock, lost wake-up, leaked
lock).  **Partial** with respect to the property text: "every call returns" under *every* interleaving is false
for any lock under an unfair scheduler; fairness of the Go scheduler and of `sync.Mutex` is runtime behaviour
the model cannot exhibit.  The model's bucket lock blocks instead of spinning; `valueFn` is a pure function
(the property's own exclusion).  Last section: in the printed text of both cache-layer files no evicted callback and no
`Range` visitor is invoked from inside a closure that runs under a bucket lock.
-/
namespace Props.C13
open Model.Proto Proofs.ProtoLocks

variable {K V : Type} [DecidableEq K] (p : Params K)

/-- **every internal lock is released on every return path** (hit, miss, delete of an absent key, retry after
a resize, abandoned shrink, lost CAS): a thread that is idle or at its return point holds no bucket lock, not
`resizeMu`, and does not own the `resizing` flag -/
theorem C13_locks_released (s : St K V) (h : Reach p s) (u : Tid)
    (hpc : (s.l u).pc = .idle ∨ (s.l u).pc = .ret) :
    (∀ T i, (s.g.tables T).lock i ≠ some u) ∧ s.g.mu ≠ some u ∧ s.g.resizer ≠ some u :=
  locks_released p s h u (hpc.imp_right .inl)

/-- **the Range visitor runs with no internal lock held**, so it may call any method of the same container
(the model lets a visitor start arbitrary nested calls, which are ordinary calls by a thread that holds nothing) -/
theorem C13_reentrant (s : St K V) (h : Reach p s) (u : Tid) (hpc : (s.l u).pc = .rgVisit) :
    (∀ T i, (s.g.tables T).lock i ≠ some u) ∧ s.g.mu ≠ some u ∧ s.g.resizer ≠ some u :=
  locks_released p s h u (Or.inr (Or.inr hpc))

/-- **nobody is left waiting for a resize that has already finished**: whoever is on the condition variable's
notify list is parked, and either the resize is still in progress or the broadcast that wakes it is the very
next step of the thread that cleared the flag -/
theorem C13_no_lost_wakeup (s : St K V) (h : Reach p s) (u : Tid) (hw : s.g.waiting u = true) :
    (s.l u).pc = .wfPark ∧ (s.g.resizing = true ∨ ∃ b, (s.l b).pc = .rzBroadcast) :=
  have hi := inv_reach h
  ((hi.2 u).park hw).imp_right fun h2 => h2.imp_right fun hb =>
    (Option.isSome_iff_exists.mp hb).imp fun b hbo => (hi.2 b).bc.mpr hbo

/-- **mutual exclusion** of every bucket lock (two lock holders of one root bucket are the same thread) -/
theorem C13_mutex (s : St K V) (h : Reach p s) (t u : Tid) (T i : Nat)
    (ht : holdsBucket (s.l t) = some (T, i)) (hu : holdsBucket (s.l u) = some (T, i)) : t = u :=
  mutex p s h t u T i ht hu

/-- **deadlock freedom**: in every reachable state in which some thread is inside a call, some thread that is
itself inside a call can take a step, whatever the inputs (layout, visitor) are -/
theorem C13_deadlock_free (s : St K V) (h : Reach p s) (t : Tid)
    (hmid : (s.l t).pc ≠ .idle ∧ (s.l t).pc ≠ .rgVisit) :
    ∃ u, (s.l u).pc ≠ .idle ∧ (s.l u).pc ≠ .rgVisit ∧ ∀ c, (step p s u c).isSome = true :=
  deadlock_free_strong p s h t hmid

/-- **a bucket lock is held for a bounded number of the holder's own steps, none of which can block** (every reachable
state, whatever the other threads do): the holder - a writer inside its critical section, the resizer copying one
bucket, `Range` snapshotting one bucket - can always take its next step, and that step either releases the lock or keeps
it with a strictly smaller measure, which never exceeds the number of counter stripes + 7.  With `C13_deadlock_free`
and `C13_no_lost_wakeup` these are the ingredients of termination of every call under a fair scheduler; that
conclusion is not a theorem here (fairness is outside the model; the user function of `Compute` is one step). -/
theorem C13_lock_hold_bounded (hmin : 0 < p.minLen) (s : St K V) (h : Reach p s) (u : Tid) (T i : Nat)
    (hh : holdsBucket (s.l u) = some (T, i)) (c : Choice K V) :
    Proofs.ProtoHold.holdMeasure p s.g (s.l u) ≤ p.stripes (s.g.tables (s.l u).tbl).len + 7 ∧
    ∃ s', step p s u c = some s' ∧
      (holdsBucket (s'.l u) = none ∨
       (holdsBucket (s'.l u) = some (T, i) ∧
        Proofs.ProtoHold.holdMeasure p s'.g (s'.l u) < Proofs.ProtoHold.holdMeasure p s.g (s.l u))) := by
  have hi := inv_reach h
  obtain ⟨s', hs, hts⟩ := step_of_enabled (c := c)
    (holder_isSome p u s.g (s.l u) c (hi.2 u).wf (.inr (.inl (by rw [hh]; rfl))))
  have hlt := Nat.lt_of_le_of_lt ((Proofs.ProtoData.dinv_reach hmin h).ld u).tblLe hi.1.2
  exact ⟨Proofs.ProtoHold.holdMeasure_le .., s', hs,
    Proofs.ProtoHold.hold_step hh hts (Proofs.ProtoData.step_len hts _ hlt)⟩

/-- the same for `resizeMu`: its holder (the resizer lowering the flag and broadcasting; a waiter between `Lock` and
`cond.Wait` / `Unlock`) is always enabled and releases it within three of its own steps -/
theorem C13_mu_hold_bounded (s : St K V) (h : Reach p s) (u : Tid) (hh : holdsMu (s.l u).pc = true) (c : Choice K V) :
    Proofs.ProtoHold.muMeasure (s.l u) ≤ 3 ∧
    ∃ s', step p s u c = some s' ∧
      (holdsMu (s'.l u).pc = false ∨
       (holdsMu (s'.l u).pc = true ∧ Proofs.ProtoHold.muMeasure (s'.l u) < Proofs.ProtoHold.muMeasure (s.l u))) := by
  obtain ⟨s', hs, hts⟩ := step_of_enabled (c := c)
    (holder_isSome p u s.g (s.l u) c (wf_reach h u) (.inl hh))
  exact ⟨Proofs.ProtoHold.muMeasure_le _, s', hs, Proofs.ProtoHold.mu_hold_step hh hts⟩

/-- **a resize lowers the `resizing` flag after a bounded number of the resizer's own steps**: every step the thread
that owns the flag takes either lowers it or strictly decreases a measure bounded by 3·(root buckets of the table being
copied) + (counter stripes) + 9.  The resizer can be blocked only while it waits for a bucket lock or for `resizeMu`,
whose holders need boundedly many, always enabled, steps (`C13_lock_hold_bounded`, `C13_mu_hold_bounded`). -/
theorem C13_resize_bounded (hmin : 0 < p.minLen) (s s' : St K V) (h : Reach p s) (u : Tid) (c : Choice K V)
    (hr : isResizer (s.l u).pc = true) (hs : step p s u c = some s') :
    isResizer (s'.l u).pc = false ∨
    (isResizer (s'.l u).pc = true ∧
      Proofs.ProtoHold.flagMeasure p s'.g (s'.l u) < Proofs.ProtoHold.flagMeasure p s.g (s.l u)) := by
  have hi := inv_reach h
  have hts := (step_def hs).1
  have hlen := Proofs.ProtoData.step_len hts
  exact Proofs.ProtoHold.flag_hold_step hr hts (fun hu => hlen _ ((hi.2 u).rtblLt hu)) (hlen _ hi.1.2)

/-- **a writer retries only before it has called the user function** (resize in progress, newer table, need to
grow): after the call it proceeds to commit, unlock and return -/
theorem C13_retry_only_before_fn (s : St K V) (h : Reach p s) (u : Tid) (hfn : (s.l u).fnCalls = 1) :
    (s.l u).pc ≠ .dcLoadTable ∧ (s.l u).pc ≠ .dcLock ∧ .dcRetry ∉ (s.l u).conts := by
  have := fn_ran_no_retry p s h u hfn
  exact ⟨this.2.1, this.2.2.1, this.2.2.2.2⟩

/-! ### Non-vacuity: the initial state is reachable; two steps into a `Store(1, 5)` the hypotheses of
`C13_deadlock_free` and `C13_lock_hold_bounded` hold. -/
def exP : Params Nat := { growThr := fun n => n * 9 / 4, shrinkThr := fun n => n * 3 / 128, bkt := fun _ k => k, minLen := 2, growOnly := false, stripes := fun _ => 8 }

example : Reach (V := Nat) exP (init exP) := ⟨[], rfl⟩
/-- non-vacuity of `C13_lock_hold_bounded`: after two steps of `Store(1, 5)` thread 0 holds the lock of root bucket 1 of
generation 0, with measure 8 + 7 -/
example : ∃ s, run (V := Nat) exP (init exP) [(0, { op := some (.dc 1 (fun _ => (5, false)) false false) }), (0, {}), (0, {})] = some s ∧
    holdsBucket (s.l 0) = some (0, 1) ∧ Proofs.ProtoHold.holdMeasure exP s.g (s.l 0) = 15 := ⟨_, rfl, rfl, rfl⟩
example : ∃ s, run (V := Nat) exP (init exP) [(0, { op := some (.dc 1 (fun _ => (5, false)) false false) }), (0, {}), (0, {})] = some s ∧
    (s.l 0).pc = .dcChkResizing := ⟨_, rfl, rfl⟩

/-! ### The evicted callback runs outside internal locks — in the source text

`Deep.deepTrace` runs the method bodies printed from the working tree with a tracing interpreter that marks an
evicted callback (or a visitor) invoked from inside a closure handed to `Compute`, i.e. under a bucket lock, as
`calledLocked`.  For every state and every call of `Set`, the `Get` family, `GetOrSet`, `GetAndSet`,
`GetAndRefresh`, `GetOrCompute`, `Compute`, `GetAndDelete`, `Delete`, `DeleteExpired`, `Clear`, `Count` and the two
setters, in both files, the trace contains no such action: whatever the callback then does (re-enter the cache
included), it holds no lock of the cache. -/

section source
open Model Model.ConcCache
variable {K V : Type} [DecidableEq K] [Inhabited V]

theorem C13_source_callbacks_unlocked (s : CSt K V) (op : COp K V) :
    (∀ r, Deep.deepTrace Deep.twinMapTr s (toSpec op) = some r → Deep.Ev.calledLocked ∉ r.2.2) ∧
    (∀ r, Deep.deepTrace Deep.twinMapOfTr s (toSpec op) = some r → Deep.Ev.calledLocked ∉ r.2.2) :=
  ⟨DeepTrace.callbacks_unlocked s op, DeepTraceOf.callbacks_unlocked s op⟩

/-- the same for `Range`'s visitor (cache layer): it is invoked with no bucket lock held, for every state and visitor -/
theorem C13_source_visitor_unlocked (s : CSt K V) (f : K → V → Bool) :
    (∀ r, Deep.deepTrace Deep.twinMapTr s (.range f) = some r → Deep.Ev.calledLocked ∉ r.2.2) ∧
    (∀ r, Deep.deepTrace Deep.twinMapOfTr s (.range f) = some r → Deep.Ev.calledLocked ∉ r.2.2) :=
  ⟨DeepTrace.visitor_unlocked s f, DeepTraceOf.visitor_unlocked s f⟩

/-- not vacuous: the traced run exists and records the callback as an ordinary (unlocked) action -/
example : (Deep.deepTrace Deep.twinMapTr (⟨[("a", ⟨1, 5⟩)], 10, 0, some 7⟩ : CSt String Nat) (.getAndDelete "a")).map (·.2.2) =
    some [.compute "a", .loadSetting "evictedCallback", .fire 7 "a" 1] := by
  rw [DeepTrace.trace_actions _ _ (by trivial)]; rfl
end source

end Props.C13
