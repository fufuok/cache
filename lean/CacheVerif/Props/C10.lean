import CacheVerif.Props.C11
import CacheVerif.Proofs.LeafBits
import CacheVerif.Proofs.DeepLoad
import CacheVerif.Proofs.DeepLoadM
import CacheVerif.Proofs.WordsInv
/-!
# C10 — keys are matched by Go equality for every comparable key type

What a theorem about this code base can carry: in the model a hasher is a *function* of the key, and the
table (M3) consults nothing but that function and `==` (`DecidableEq K`).  `C10_eq_only` is the refinement of
C11 read with the quantifier on the hash function in front — in particular for the constant hash, under which
all keys collide in bucket index, in the top-hash bits and in the 7-bit `h2`.
Below M3, on the packed words: the `Load` of both tables as printed from the source is the search filtered by the
`meta` / top-hash word; that search is the key search by `==` for every hash-byte function
(`C10_word_search_is_key_search`, `C10_tophash_search_is_key_search`), hence M3's `load` step
(`C10_source_load_is_model_load`, `C10_source_mapload_is_model_load`), on heaps whose words represent their entries
(`RepB` / `RepM`); the word updates of the write path keep that representation (`C10_*_words_stay_representative`).
The remaining content of C10 — that Go's runtime hasher *is* a function of the `==`-class of the key for every
comparable type, and never panics — is the hypothesis *H(K)* of these theorems; it is a statement about the Go
runtime's memory representation and is checked by the key-type catalogue of the correspondence harness
(DESIGN.md §4.10).
-/
namespace Props.C10
open Spec Model.Table Proofs.TableRefine Props.C11

variable {K V : Type} [DecidableEq K] [Inhabited V]

/-- **two keys address the same entry iff they are equal — for every hash function**: `MapOf` with an
arbitrary hasher answers every call sequence exactly like a builtin map keyed by `==`. -/
theorem C10_eq_only (hash : K → BitVec 64 → BitVec 64) (seeds : Nat → BitVec 64) (hint : Int) (growOnly : Bool)
    (ops : List (MOp K V))
    (hlen : 0 < (new (V := V) mapOfVariant ⟨hash, seeds⟩ hint growOnly).tbl.len) :
    RunRel ([] : AMap K V) ops (run mapOfVariant ⟨hash, seeds⟩ (new mapOfVariant ⟨hash, seeds⟩ hint growOnly) ops).2 :=
  C11_MapOf ⟨hash, seeds⟩ hint growOnly ops hlen

/-- **distinct keys never alias even when their hashes collide completely** -/
theorem C10_total_collision (seeds : Nat → BitVec 64) (ops : List (MOp K V)) :
    RunRel ([] : AMap K V) ops
      (run mapOfVariant ⟨fun _ _ => 0, seeds⟩ (new mapOfVariant ⟨fun _ _ => 0, seeds⟩ 0 false) ops).2 :=
  C11_MapOf _ 0 false ops (by rw [C11_default_len _ _ _ _ (by decide)]; decide)

/-- the same for the string-keyed `Map` (and hence for `Cache`) -/
theorem C10_total_collision_Map (seeds : Nat → BitVec 64) (ops : List (MOp K V)) :
    RunRel ([] : AMap K V) ops
      (run mapVariant ⟨fun _ _ => 0, seeds⟩ (new mapVariant ⟨fun _ _ => 0, seeds⟩ 0 false) ops).2 :=
  C11_Map _ 0 false ops (by rw [C11_default_len _ _ _ _ (by decide)]; decide)

/-! ### the packed words never hide a present key (leaf lemmas over the machine-translated bit code) -/

/-- `MapOf`: a slot whose meta byte equals the searched key's `h2` is always among the SWAR candidates
(`markZeroBytes` has no false negatives), so the search by `==` over candidates finds every present key -/
theorem C10_meta_no_false_negative (m : BitVec 64) (b : BitVec 8) (i : Nat) (hi : i < 5)
    (hm : Proofs.LeafBits.getByte m i = b) :
    ((Gen.markZeroBytes (m ^^^ Gen.broadcast b)) &&& Gen.metaMask).getLsbD (8 * i + 7) = true :=
  Proofs.LeafBits.candidate_of_meta m b i hi hm

/-- an occupied slot's meta byte is never mistaken for an empty one -/
theorem C10_h2_never_empty (h : BitVec 64) : Gen.h2 h ≠ Gen.emptyMetaSlot := Proofs.LeafBits.h2_ne_empty h

/-- `Map`: the slot a key was stored in always matches that key's top hash -/
theorem C10_tophash_no_false_negative (h w : BitVec 64) (i : Nat) (hi : i < 3) :
    Gen.topHashMatch h (Gen.storeTopHash h w i) i = true := Proofs.LeafBits.topHashMatch_store h w i hi

/-- storing or erasing one slot's bits never changes what another slot matches -/
theorem C10_slots_independent (h h' w : BitVec 64) (i j : Nat) (hi : i < 3) (hj : j < 3) (hij : i ≠ j) :
    Gen.topHashMatch h' (Gen.storeTopHash h w i) j = Gen.topHashMatch h' w j ∧
    Gen.topHashMatch h' (Gen.eraseTopHash w i) j = Gen.topHashMatch h' w j :=
  ⟨Proofs.LeafBits.topHashMatch_store_other h h' w i j hi hj hij, Proofs.LeafBits.topHashMatch_erase_other h' w i j hi hj hij⟩

/-! ### Non-vacuity: six fully colliding keys, a delete in the first bucket, a survivor behind the hole -/
def collEnv : Env Nat := { hash := fun _ _ => 0, seeds := fun _ => 0 }
def collOps : List (MOp Nat Nat) :=
  [.store 1 10, .store 2 20, .store 3 30, .store 4 40, .store 5 50, .store 6 60, .delete 1, .load 6, .store 7 70, .load 2, .load 1]

set_option maxRecDepth 8000 in
example : ((run mapOfVariant collEnv (new mapOfVariant collEnv 0 false) collOps).2.map (·.out)) =
    [.unit, .unit, .unit, .unit, .unit, .unit, .unit, .val 60 true, .unit, .val 20 true, .val 0 false] := by decide

/-! ### the lookup path of `MapOf`, printed from the source: the packed word only pre-selects, `==` decides

`tools/go2deep -table` prints `(*MapOf[K,V]).Load` on every run; `Deep/TInterp.lean` gives the Go subset its
(sequential) meaning. -/

omit [Inhabited V] in
/-- **the SWAR-filtered search is the key search, for every hash-byte function**: over any chain of buckets whose
`meta` words say what their entries demand, walking the marked bytes of `markZeroBytes(meta ^ broadcast(h2))` in
`firstMarkedByteIndex` order and comparing keys there finds exactly the first slot whose key `==` the argument -
false positives of the byte trick are rejected by the comparison, there are no false negatives, the iteration ends -/
theorem C10_word_search_is_key_search (hk : K → BitVec 8) (key : K) (c : List (Model.Words.BucketOf K V))
    (hrep : ∀ b ∈ c, Model.Words.RepB hk b) :
    Model.Words.searchChain key (Gen.broadcast (hk key)) c = lookup key (Model.Words.flat c) :=
  Proofs.Words.searchChain_eq hk key c hrep

omit [Inhabited V] in
/-- **the text of `MapOf.Load` computes that search**: for every heap, key and sufficient loop budget the interpreter on
the printed body returns `(v, true)` when the word-filtered search of the root bucket's chain finds `v`, and the zero
value and `false` otherwise (no stuck state: no index out of range, no nil dereference) -/
theorem C10_source_load_is_word_search (fuel : Nat) (hf : 8 ≤ fuel) (h : Deep.T.Heap K V) (key : K)
    (c : List (Model.Words.BucketOf K V))
    (hc : h.chains[(Proofs.DeepLoad.bidxOf h key).toNat]? = some c) (hne : c ≠ []) (hfuel : c.length ≤ fuel)
    (hlen : ∀ b ∈ c, b.entries.length = 5) :
    Deep.T.call fuel h Gen.Deep.T_MapOf_Load [.key key] =
      some (match Model.Words.searchChain key (Proofs.DeepLoad.h2wOf h key) c with
        | some v => [.val v, .bool true]
        | none => [.zeroV, .bool false]) :=
  Proofs.DeepLoad.load_eq_search fuel hf h key c hc hne hfuel hlen

/-- **the text of `MapOf.Load` is the `load` step of the table model M3**, whose refinement of the builtin map is
`C10_eq_only`: power-of-two table, non-empty chains, `meta` words representing their entries; any hasher, seed,
contents -/
theorem C10_source_load_is_model_load (fuel : Nat) (hf : 8 ≤ fuel) (h : Deep.T.Heap K V) (m : St K V) (env : Env K)
    (key : K) (p : Nat) (hp : p < 64) (hlen : h.chains.length = 2 ^ p)
    (htbl : m.tbl.chains = h.chains.map Model.Words.flat) (hseed : m.tbl.seed = h.seed) (hhash : env.hash = h.hasher)
    (hne : ∀ c ∈ h.chains, c ≠ []) (hfuel : ∀ c ∈ h.chains, c.length ≤ fuel)
    (hrep : ∀ c ∈ h.chains, ∀ b ∈ c, Model.Words.RepB (Proofs.DeepLoad.hkOf h) b) :
    Deep.T.call fuel h Gen.Deep.T_MapOf_Load [.key key] =
      some (match (step mapOfVariant env m (.load key)).2.out with
        | .val v true => [.val v, .bool true]
        | _ => [.zeroV, .bool false]) :=
  Proofs.DeepLoad.load_is_model_load fuel hf h m env key p hp hlen htbl hseed hhash hne hfuel hrep

/-! Non-vacuity: a two-chain heap in which keys 1 and 257 share bucket, slot byte (`h2 = 1`) and chain, key 515 sits in
an overflow bucket, key 129 has the same `h2` again but lives in the other chain (absent).  The hypotheses of
`C10_source_load_is_model_load` hold of it, and the printed `Load` answers by key. -/
def exHeap : Deep.T.Heap Nat Nat :=
  { chains := [[⟨0x8080808080800101#64, [some (257, 70), some (1, 10), none, none, none]⟩,
                ⟨0x8080808080800380#64, [none, some (515, 30), none, none, none]⟩],
               [⟨Gen.defaultMeta, [none, none, none, none, none]⟩]],
    seed := 0#64, hasher := fun k _ => BitVec.ofNat 64 k }

example : exHeap.chains.length = 2 ^ 1 ∧ (∀ c ∈ exHeap.chains, c ≠ []) ∧ (∀ c ∈ exHeap.chains, c.length ≤ 8) := by
  decide

example : ∀ c ∈ exHeap.chains, ∀ b ∈ c, Model.Words.RepB (Proofs.DeepLoad.hkOf exHeap) b := by
  simp only [exHeap, List.mem_cons, List.mem_nil_iff, or_false, forall_eq_or_imp, forall_eq]
  refine ⟨⟨?_, ?_⟩, ?_⟩ <;> refine ⟨by decide, ?_⟩ <;> intro i hi <;>
    (obtain rfl | rfl | rfl | rfl | rfl : i = 0 ∨ i = 1 ∨ i = 2 ∨ i = 3 ∨ i = 4 := by
      simp only [Gen.entriesPerMapOfBucket] at hi; omega) <;> decide

example : Deep.T.call 8 exHeap Gen.Deep.T_MapOf_Load [.key 1] = some [.val 10, .bool true] := by rfl
example : Deep.T.call 8 exHeap Gen.Deep.T_MapOf_Load [.key 257] = some [.val 70, .bool true] := by rfl
example : Deep.T.call 8 exHeap Gen.Deep.T_MapOf_Load [.key 515] = some [.val 30, .bool true] := by rfl
example : Deep.T.call 8 exHeap Gen.Deep.T_MapOf_Load [.key 129] = some [.zeroV, .bool false] := by rfl
example : Deep.T.call 8 exHeap Gen.Deep.T_MapOf_Load [.key 2] = some [.zeroV, .bool false] := by rfl

/-! A false positive of the byte trick, rejected by `==`: bytes `02 03` against the searched byte `02` - the borrow of the
subtraction marks byte 1 although `03 ≠ 02` - and the printed `Load` still answers by key. -/
def exHeapFP : Deep.T.Heap Nat Nat :=
  { chains := [[⟨0x8080808080800302#64, [some (2, 20), some (3, 30), none, none, none]⟩]],
    seed := 0#64, hasher := fun k _ => BitVec.ofNat 64 k }

example : (Model.Words.candidates (Gen.broadcast 2#8) 0x8080808080800302#64).getLsbD 7 = true ∧
    (Model.Words.candidates (Gen.broadcast 2#8) 0x8080808080800302#64).getLsbD 15 = true := by decide
example : Deep.T.call 8 exHeapFP Gen.Deep.T_MapOf_Load [.key 130] = some [.zeroV, .bool false] := by rfl
example : Deep.T.call 8 exHeapFP Gen.Deep.T_MapOf_Load [.key 2] = some [.val 20, .bool true] := by rfl
example : Deep.T.call 8 exHeapFP Gen.Deep.T_MapOf_Load [.key 3] = some [.val 30, .bool true] := by rfl

/-! ### the lookup path of the string-keyed `Map`, printed from the source -/

omit [Inhabited V] in
/-- **the top-hash filter only pre-selects**: over any chain of `Map` buckets whose stored top hashes match the keys in
their slots, testing `topHashMatch` on the three slots and comparing keys only where it holds finds exactly the first
slot whose key `==` the argument - for every hash function; a stale match on a free slot is rejected by the nil check -/
theorem C10_tophash_search_is_key_search (hashOf : K → BitVec 64) (key : K) (c : List (Model.Words.BucketM K V))
    (hrep : ∀ b ∈ c, Model.Words.RepM hashOf b) :
    Model.Words.searchChainM key (hashOf key) c = lookup key (Model.Words.flatM c) :=
  Proofs.Words.searchChainM_eq hashOf key c hrep

omit [Inhabited V] in
/-- **the text of `Map.Load` computes that search** (three-clause `for` with `continue`, labelled three-read snapshot
whose `goto` is never taken sequentially, walk along `next`); never stuck -/
theorem C10_source_mapload_is_tophash_search (fuel : Nat) (hf : 4 ≤ fuel) (h : Deep.T.Heap K V) (key : K)
    (c : List (Model.Words.BucketM K V))
    (hc : h.mchains[(Proofs.DeepLoadM.mbidxOf h key).toNat]? = some c) (hne : c ≠ []) (hfuel : c.length ≤ fuel)
    (hlen : ∀ b ∈ c, b.slots.length = 3) :
    Deep.T.call fuel h Gen.Deep.T_Map_Load [.key key] =
      some (match Model.Words.searchChainM key (Proofs.DeepLoadM.mhashOf h key) c with
        | some v => [.val v, .bool true]
        | none => [.zeroV, .bool false]) :=
  Proofs.DeepLoadM.mload_eq_search fuel hf h key c hc hne hfuel hlen

/-- **the text of `Map.Load` is the `load` step of the table model M3** (Map variant) -/
theorem C10_source_mapload_is_model_load (fuel : Nat) (hf : 4 ≤ fuel) (h : Deep.T.Heap K V) (m : St K V) (env : Env K)
    (key : K) (p : Nat) (hp : p < 64) (hlen : h.mchains.length = 2 ^ p)
    (htbl : m.tbl.chains = h.mchains.map Model.Words.flatM) (hseed : m.tbl.seed = h.seed) (hhash : env.hash = h.hasher)
    (hne : ∀ c ∈ h.mchains, c ≠ []) (hfuel : ∀ c ∈ h.mchains, c.length ≤ fuel)
    (hrep : ∀ c ∈ h.mchains, ∀ b ∈ c, Model.Words.RepM (Proofs.DeepLoadM.mhashOf h) b) :
    Deep.T.call fuel h Gen.Deep.T_Map_Load [.key key] =
      some (match (step mapVariant env m (.load key)).2.out with
        | .val v true => [.val v, .bool true]
        | _ => [.zeroV, .bool false]) :=
  Proofs.DeepLoadM.mload_is_model_load fuel hf h m env key p hp hlen htbl hseed hhash hne hfuel hrep

/-! Non-vacuity: one chain of two `Map` buckets; keys 5 and 7 in the root bucket, key 2 in the third slot of the overflow
bucket, key 9 absent; the top hashes are the ones `storeTopHash` writes. -/
def exHash (k : Nat) : BitVec 64 := BitVec.ofNat 64 k <<< 44
def exHeapM : Deep.T.Heap Nat Nat :=
  { chains := [], seed := 0#64, hasher := fun k _ => exHash k,
    mchains := [[⟨Gen.storeTopHash (exHash 7) (Gen.storeTopHash (exHash 5) 0#64 0) 1, [some (5, 50), some (7, 70), none]⟩,
                 ⟨Gen.storeTopHash (exHash 2) 0#64 2, [none, none, some (2, 20)]⟩]] }

example : exHeapM.mchains.length = 2 ^ 0 ∧ (∀ c ∈ exHeapM.mchains, c ≠ []) ∧ (∀ c ∈ exHeapM.mchains, c.length ≤ 4) := by
  decide

example : ∀ c ∈ exHeapM.mchains, ∀ b ∈ c, Model.Words.RepM (Proofs.DeepLoadM.mhashOf exHeapM) b := by
  simp only [exHeapM, List.mem_cons, List.mem_nil_iff, or_false, forall_eq_or_imp, forall_eq]
  refine ⟨?_, ?_⟩ <;> refine ⟨by decide, ?_⟩ <;> intro i hi <;>
    (obtain rfl | rfl | rfl : i = 0 ∨ i = 1 ∨ i = 2 := by
      simp only [Gen.entriesPerMapBucket] at hi; omega) <;>
    simp only [List.getD_cons_zero, List.getD_cons_succ] <;> first | exact trivial | decide

example : Deep.T.call 4 exHeapM Gen.Deep.T_Map_Load [.key 5] = some [.val 50, .bool true] := by rfl
example : Deep.T.call 4 exHeapM Gen.Deep.T_Map_Load [.key 7] = some [.val 70, .bool true] := by rfl
example : Deep.T.call 4 exHeapM Gen.Deep.T_Map_Load [.key 2] = some [.val 20, .bool true] := by rfl
example : Deep.T.call 4 exHeapM Gen.Deep.T_Map_Load [.key 9] = some [.zeroV, .bool false] := by rfl

/-! ### the representation the lookup theorems assume is an invariant of the write path's word arithmetic -/

omit [Inhabited V] in
/-- **`MapOf`**: a fresh bucket is represented, and insertion (`setByte(meta, h2, i)` + entry), a new overflow bucket
(`setByte(defaultMeta, h2, 0)`), in-place update (same key, `meta` untouched) and deletion
(`setByte(meta, emptyMetaSlot, i)` + nil) keep `RepB`, the hypothesis `hrep` of `C10_source_load_is_model_load` - for
every hash-byte function -/
theorem C10_meta_words_stay_representative (hk : K → BitVec 8) :
    Model.Words.RepB hk (⟨Gen.defaultMeta, [none, none, none, none, none]⟩ : Model.Words.BucketOf K V) ∧
    (∀ (b : Model.Words.BucketOf K V), Model.Words.RepB hk b → ∀ i, i < 5 → ∀ (k : K) (v : V),
      Model.Words.RepB hk ⟨Gen.setByte b.metaw (hk k) i, b.entries.set i (some (k, v))⟩) ∧
    (∀ (k : K) (v : V),
      Model.Words.RepB hk (⟨Gen.setByte Gen.defaultMeta (hk k) 0, [some (k, v), none, none, none, none]⟩ : Model.Words.BucketOf K V)) ∧
    (∀ (b : Model.Words.BucketOf K V), Model.Words.RepB hk b → ∀ i, i < 5 → ∀ (k : K) (v v' : V),
      b.entries.getD i none = some (k, v) → Model.Words.RepB hk ⟨b.metaw, b.entries.set i (some (k, v'))⟩) ∧
    (∀ (b : Model.Words.BucketOf K V), Model.Words.RepB hk b → ∀ i, i < 5 →
      Model.Words.RepB hk ⟨Gen.setByte b.metaw Gen.emptyMetaSlot i, b.entries.set i none⟩) :=
  ⟨Proofs.WordsInv.repB_fresh hk, Proofs.WordsInv.repB_insert hk, Proofs.WordsInv.repB_newBucket hk,
   Proofs.WordsInv.repB_update hk, Proofs.WordsInv.repB_delete hk⟩

omit [Inhabited V] in
/-- **`Map`**: the same for the top-hash word - fresh bucket, `storeTopHash`, in-place update, `eraseTopHash`, and
taking / releasing the spin lock that lives in bit 0 of the same word -/
theorem C10_tophash_words_stay_representative (hashOf : K → BitVec 64) :
    (∀ w, Model.Words.RepM hashOf (⟨w, [none, none, none]⟩ : Model.Words.BucketM K V)) ∧
    (∀ (b : Model.Words.BucketM K V), Model.Words.RepM hashOf b → ∀ i, i < 3 → ∀ (k : K) (v : V),
      Model.Words.RepM hashOf ⟨Gen.storeTopHash (hashOf k) b.word i, b.slots.set i (some (k, v))⟩) ∧
    (∀ (b : Model.Words.BucketM K V), Model.Words.RepM hashOf b → ∀ i, i < 3 → ∀ (k : K) (v v' : V),
      b.slots.getD i none = some (k, v) → Model.Words.RepM hashOf ⟨b.word, b.slots.set i (some (k, v'))⟩) ∧
    (∀ (b : Model.Words.BucketM K V), Model.Words.RepM hashOf b → ∀ i, i < 3 →
      Model.Words.RepM hashOf ⟨Gen.eraseTopHash b.word i, b.slots.set i none⟩) ∧
    (∀ (b : Model.Words.BucketM K V), Model.Words.RepM hashOf b →
      Model.Words.RepM hashOf ⟨b.word ||| 1#64, b.slots⟩ ∧ Model.Words.RepM hashOf ⟨b.word &&& ~~~1#64, b.slots⟩) :=
  ⟨Proofs.WordsInv.repM_fresh hashOf, Proofs.WordsInv.repM_insert hashOf, Proofs.WordsInv.repM_update hashOf,
   Proofs.WordsInv.repM_delete hashOf, Proofs.WordsInv.repM_lock hashOf⟩

end Props.C10
