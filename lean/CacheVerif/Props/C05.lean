import CacheVerif.Proofs.ProtoLocks
import CacheVerif.Proofs.DoCompute
import CacheVerif.Proofs.TableRefine
import CacheVerif.Proofs.CacheRefine
import CacheVerif.Proofs.DeepSource
/-!
# C05 — get-or-create and compute calls are atomic per key; user function runs once

* Invocation counts under every interleaving (M4a, ghost `fnCalls` per `doCompute` activation): at most once;
  exactly once for every call without the lock-free fast path (`Store`, `LoadAndStore`, `Compute`,
  `LoadAndDelete`, `Delete`); for `LoadOrStore`/`LoadOrCompute` exactly when the call reports `loaded = false`;
  and every retry edge (resize in progress, newer table, need to grow) leaves before the call.
* Sequential exactness (M3, M2): the number of invocations of every call equals the builtin-map / TTL
  semantics' (already part of `C11_run` and `C01_run`; restated here).
* "Exactly one winner among racers" is a consequence of linearizability (C02–C04) and of the sequential semantics:
  `once_winner`, `racers_one_winner` below.  "No lost update" has no theorem of its own: it is the legality of the
  linearization log (`C03_C04_log_legal_state`, `C03_C04_writer_once`).
-/
namespace Props.C05
open Model.Proto Proofs.ProtoLocks

section conc
variable {K V : Type} [DecidableEq K] (p : Params K)

theorem C05_at_most_once (s : St K V) (h : Reach p s) (u : Tid) : (s.l u).fnCalls ≤ 1 :=
  (wf_reach h u).le

theorem C05_exactly_once (s : St K V) (h : Reach p s) (u : Tid) (k : K) (f : Option V → V × Bool) (co : Bool)
    (hop : (s.l u).op = some (.dc k f false co)) (hpc : (s.l u).pc = .ret) : (s.l u).fnCalls = 1 :=
  ((wf_reach h u).post (.inr (.inr (.inr (.inl ⟨hpc, by rw [hop]; rfl⟩))))).1 (by simp [dcFlags_eq, hop])

theorem C05_iff_not_loaded (s : St K V) (h : Reach p s) (u : Tid) (k : K) (f : Option V → V × Bool)
    (hop : (s.l u).op = some (.dc k f true false)) (hpc : (s.l u).pc = .ret) :
    ∀ v flag, (s.l u).result = some (.val v flag) → ((s.l u).fnCalls = 0 ↔ flag = true) :=
  ((wf_reach h u).post (.inr (.inr (.inr (.inl ⟨hpc, by rw [hop]; rfl⟩))))).2 (by simp [dcFlags_eq, hop]) (by simp [dcFlags_eq, hop])

/-- no retry edge leaves a pc at or after the call of the user function -/
theorem C05_no_retry_after_call (s : St K V) (h : Reach p s) (u : Tid) (hfn : (s.l u).fnCalls = 1) :
    beforeFn (s.l u).pc = false ∧ (s.l u).pc ≠ .dcLoadTable ∧ (s.l u).pc ≠ .dcLock ∧ (s.l u).pc ≠ .dcFn
      ∧ .dcRetry ∉ (s.l u).conts :=
  fn_ran_no_retry p s h u hfn

end conc

section seq
open Spec Model.Table Proofs.TableRefine
variable {K V : Type} [DecidableEq K] [Inhabited V]

/-- sequential exactness on the tables: invocation count of every call = the builtin-map semantics' -/
theorem C05_seq_table (var : Variant) (hv : GoodVariant var) (env : Env K) (sp : AMap K V) (m : Model.Table.St K V)
    (h : Sim var env sp m) (op : MOp K V) :
    (Model.Table.step var env m op).2.fnCalls = (specStep sp op).2.2 :=
  (step_refines var env hv sp m h op).2.2

/-- sequential exactness on the caches: the user-function invocations (with the argument they receive) of every
call are those of the TTL semantics: `GetOrCompute`'s function only when no live value exists, `Compute`'s
exactly once with `(old, true)` iff a live value exists -/
theorem C05_seq_cache (s : Model.Cache.St K V) (a : TTL.St K V) (h : Proofs.CacheRefine.Sim s a) (op : Model.Op K V) :
    (Model.Cache.step s op).2.fn = (TTL.step a op).2.2 :=
  (Proofs.CacheRefine.step_sim h op).2.2

/-- the same for the text of both source files (method bodies printed from the working tree, run by the
interpreter of the Go subset): the user function of `GetOrCompute` is invoked at most once and only when no live
value exists, the one of `Compute` exactly once with the live value or `(zero, false)` — also when the function
takes time (`getOrComputeSlow`, `computeSlow`) -/
theorem C05_source_cache (s : Model.Cache.St K V) (a : TTL.St K V) (h : Proofs.CacheRefine.Sim s a) (op : Model.Op K V)
    (T : Deep.Twin K V) (hT : DeepSource.IsTwin T) :
    ∃ s' r, Deep.deepStep T s op = some (s', r) ∧ r.fn = (TTL.step a op).2.2 :=
  ⟨_, _, DeepSource.step s op T hT, C05_seq_cache s a h op⟩

/-- **exactly one winner**: any non-empty sequence of `LoadOrStore`s on a key that is absent (nobody else
writing it) stores exactly the first caller's value, exactly that caller reports `loaded = false`, and every
caller returns that one value -/
theorem once_winner (m : AMap K V) (k : K) (hk : m.get k = none) (v : V) (vs : List V) :
    let r := (v :: vs).foldl (fun (acc : AMap K V × List (V × Bool)) x =>
      ((acc.1.loadOrStore k x).1, acc.2 ++ [(acc.1.loadOrStore k x).2])) (m, [])
    r.2 = (v, false) :: vs.map (fun _ => (v, true)) ∧ r.1.get k = some v := by
  have step1 : (m.loadOrStore k v) = (m.set k v, (v, false)) := by rw [AMap.loadOrStore_eq, hk]; rfl
  have hget : (m.set k v).get k = some v := by rw [AMap.get_set, if_pos rfl]
  have key : ∀ (l : List V) (acc : List (V × Bool)),
      (l.foldl (fun (a : AMap K V × List (V × Bool)) x => ((a.1.loadOrStore k x).1, a.2 ++ [(a.1.loadOrStore k x).2]))
        (m.set k v, acc)) = (m.set k v, acc ++ l.map (fun _ => (v, true))) := by
    intro l
    induction l with
    | nil => intro acc; simp
    | cons x xs ih =>
      intro acc
      have hx : (m.set k v).loadOrStore k x = (m.set k v, (v, true)) := by rw [AMap.loadOrStore_eq, hget]; rfl
      simp only [List.foldl_cons, hx, List.map_cons]
      rw [ih]; simp
  simp only [List.foldl_cons, step1, List.nil_append]
  rw [key]
  exact ⟨rfl, hget⟩

end seq

/-! ### concurrent racers, through the linearization log (M4a, `Proofs/ProtoHW.lean`)

Every run of M4a has one linearization log that is a legal builtin-map history, in which every completed writing call
occurs exactly once with the result it returned (`C03_C04_log_legal_state`, `C03_C04_writer_once`).  So what concurrent
`LoadOrStore` / `LoadOrCompute` racers on one key may return is what a *legal log* allows: -/
section racers
open Proofs.ProtoHW Proofs.ProtoLin Model.Proto

variable {K V : Type} [DecidableEq K]

/-- `e` is a get-or-create call on `k` (`LoadOrStore` / `LoadOrCompute`: loads if present, never deletes) -/
def IsGetOrCreate (k : K) (e : LinE K V) : Prop :=
  ∃ f co, e.op = .dc k f true co ∧ (f none).2 = false

/-- **exactly one winner** in any legal history: if a stretch of the log consists of get-or-create calls on a key
that is absent before it, then the first of them stored its value and reports "not loaded", and every later one
reports "loaded" and returns that same value -/
theorem racers_one_winner (m : K → Option V) (k : K) (hk : m k = none) (e : LinE K V) (rest : List (LinE K V))
    (hall : ∀ x ∈ e :: rest, IsGetOrCreate k x) (hleg : Legal m (e :: rest)) :
    ∃ f co v, e.op = .dc k f true co ∧ v = (f none).1 ∧ e.res = .val (some v) co ∧
      (∀ x ∈ rest, ∃ f' co', x.op = .dc k f' true co' ∧ x.res = .val (some v) (!co')) ∧
      specFold m (e :: rest) k = some v := by
  obtain ⟨f, co, hop, hnd⟩ := hall e (List.mem_cons_self ..)
  simp only [Legal] at hleg
  obtain ⟨hres, hrest⟩ := hleg
  have h1 : specStep m e.op = (fun k' => if k' = k then some (f none).1 else m k', .val (some (f none).1) co) := by
    rw [hop]; simp [specStep, specDc, hk, hnd]
  rw [h1] at hres hrest
  refine ⟨f, co, (f none).1, hop, rfl, hres.symm, ?_⟩
  -- every later get-or-create call finds the winner's value
  have key : ∀ (l : List (LinE K V)) (m' : K → Option V), m' k = some (f none).1 →
      (∀ x ∈ l, IsGetOrCreate k x) → Legal m' l →
      (∀ x ∈ l, ∃ f' co', x.op = .dc k f' true co' ∧ x.res = .val (some (f none).1) (!co')) ∧
      specFold m' l k = some (f none).1 := by
    intro l
    induction l with
    | nil => intro m' hm _ _; exact ⟨by simp, hm⟩
    | cons x xs ih =>
      intro m' hm hx hl
      obtain ⟨f', co', hop', -⟩ := hx x (List.mem_cons_self ..)
      simp only [Legal] at hl
      obtain ⟨hr, hl'⟩ := hl
      have h2 : specStep m' x.op = (fun k' => if k' = k then some (f none).1 else m' k', .val (some (f none).1) (!co')) := by
        rw [hop']; simp [specStep, specDc, hm]
      rw [h2] at hr hl'
      have hm2 : (fun k' => if k' = k then some (f none).1 else m' k') k = some (f none).1 := by simp
      obtain ⟨ih1, ih2⟩ := ih _ hm2 (fun y hy => hx y (List.mem_cons_of_mem _ hy)) hl'
      refine ⟨?_, ?_⟩
      · intro y hy
        rcases List.mem_cons.mp hy with rfl | hy
        · exact ⟨f', co', hop', hr.symm⟩
        · exact ih1 y hy
      · simp only [specFold, h2]; exact ih2
  have hm1 : (fun k' => if k' = k then some (f none).1 else m k') k = some (f none).1 := by simp
  obtain ⟨r1, r2⟩ := key rest _ hm1 (fun y hy => hall y (List.mem_cons_of_mem _ hy)) hrest
  exact ⟨r1, by simp only [specFold, h1]; exact r2⟩

end racers

end Props.C05
