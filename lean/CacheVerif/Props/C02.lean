import CacheVerif.Proofs.ConcCacheLin
import CacheVerif.Proofs.ConcCacheSolo
import CacheVerif.Proofs.DeepSource
import CacheVerif.Proofs.DeepTrace
import CacheVerif.Proofs.DeepTraceOf
/-!
# C02 — concurrent Cache/CacheOf calls are linearizable against the TTL-map semantics

Theorems about M5 (`Model.ConcCache`): any number of threads, any schedule, clock ticks at any moment (also in the
middle of a call), arbitrary keys/values/TTLs/user functions.  Forward simulation with fixed linearization
points: the shared state is always `Sim`-related (the relation of the sequential refinement C01) to a ghost
`Spec.TTL` state that changes **only** at linearization points — by exactly the spec step of the call, whose
result is what the call then returns — and at clock ticks; plus hindsight for the `Get` family.  So an unexpired
value is never lost to `DeleteExpired` / lazy deletion, and nothing deleted, cleared or expired reappears.
**Partial**: M5 treats the underlying map as atomic (justified by C03/C04 and the unmechanised substitutivity of
linearizable objects); `Set` is linearized at its `Store` with the instant computed from an earlier clock
reading (`SetStoreSpec`), and `GetWithTTL` of an entry with an expiration instant reports value and flag of its
hindsight / linearization point but the remaining lifetime against a *second*, later clock reading of the same call
(`C02_get_ttl`, `C02_get_ttl_end_to_end`); that the log of linearization points yields a Herlihy–Wing linearization
is the standard argument, not mechanised.
-/
namespace Props.C02
open Spec Model Model.ConcCache Proofs.ConcCacheLin Proofs.CacheRefine

variable {K V : Type} [DecidableEq K] [Inhabited V]

/-- **the simulation invariant holds in every reachable state**: whatever the interleaving and the clock did, the
shared map restricted to its unexpired entries is exactly the abstract TTL map (and the settings agree) -/
theorem C02_sim_invariant (dflt : Int) (cb : Option Nat) (now : Int) (h0 : 0 ≤ now) (s : St K V)
    (hr : Reach dflt cb now s) : Sim (view s.g) s.g.abs :=
  (inv_reach h0 hr).1

/-- **every linearization point returns the TTL semantics' answer and performs its effect**, atomically.  The one
linearization point that does not assign the call's result is the double-checked `Compute` of a `GetWithTTL k` that
finds the abstract binding `i` of `k` with an expiration instant: the TTL semantics' answer at that instant is
`valTTL i.v (i.e - now) true`; the call keeps `i` and moves to `getTTLClock`, where it reports the same value and flag
and the lifetime `i.e - now'` against the clock `now' ≥ now` it reads there (`C02_get_ttl`). -/
theorem C02_linearization_points (dflt : Int) (cb : Option Nat) (now : Int) (h0 : 0 ≤ now) (s s' : St K V)
    (t : Tid) (c : Choice K V) (δ : Nat) (op : COp K V) (hr : Reach dflt cb now s)
    (hs : step s (some t) c δ = some s') (hlp : lpPc (s.l t).pc = true) (ho : (s.l t).op = some op) :
    (((s'.l t).pc ≠ .getTTLClock ∧
        ∃ res, (s'.l t).result = some res ∧ logical res = (TTL.step s.g.abs (toSpec op)).2.1) ∨
     (∃ k i, (s.l t).pc = .getCompute ∧ op = .getWithTTL k ∧ s.g.abs.live.get k = some i ∧ 0 < i.e ∧
        (TTL.step s.g.abs (toSpec op)).2.1 = .valTTL i.v (i.e - s.g.now) true ∧
        (s'.l t).pc = .getTTLClock ∧ (s'.l t).loaded = some i)) ∧
      ((s.l t).pc ≠ .setStore → s'.g.abs = (TTL.step s.g.abs (toSpec op)).1) ∧
      ((s.l t).pc = .setStore → SetStoreSpec s.g (s.l t) op s'.g) := by
  obtain ⟨hg, hl, hst, _, _⟩ := reach_tstep h0 hr hs
  exact lp_result hg hl hlp ho hst

/-- **every other step is logically invisible**: lazy deletion on read, every step of `DeleteExpired` and of the
janitor, callback delivery, setting reads … leave the abstract state untouched -/
theorem C02_non_lp_steps_are_invisible (t : Tid) (g : G K V) (l : L K V) (c : Choice K V) (g' : G K V) (l' : L K V)
    (hp : lpPc l.pc = false) (hs : tstep t g l c = some (g', l')) : g'.abs = g.abs := by
  have h := Proofs.ConcCacheStep.step_of_tstep hs
  generalize l.pc = p at h hp
  cases h <;> first | rfl | cases hp

/-- **an unexpired value is never lost to DeleteExpired, a janitor pass or lazy expiry deletion** -/
theorem C02_cleanup_never_removes_live (dflt : Int) (cb : Option Nat) (now : Int) (h0 : 0 ≤ now) (s s' : St K V)
    (t : Tid) (c : Choice K V) (δ : Nat) (hr : Reach dflt cb now s) (hs : step s (some t) c δ = some s')
    (hpc : (s.l t).pc = .deCompute ∨ (s.l t).pc = .getCompute) :
    ∀ k i, s.g.items.get k = some i → TTL.expired i.e s.g.now = false → s'.g.items.get k = some i := by
  obtain ⟨_, hl, hst, _, _⟩ := reach_tstep h0 hr hs
  exact never_removes_live hl hpc hst

/-- **hindsight for the Get family**: a call that passes the clock check with its loaded item `i` found the
abstract binding of the key at the instant of its lock-free `Load` (an instant inside the call).  It returns at once
with `hitResult op i now` — except `GetWithTTL` of an entry with an expiration instant (`0 < i.e`), which keeps `i` and
goes on to read the clock a second time (`getTTLClock`, `C02_get_ttl`) -/
theorem C02_get_hindsight (dflt : Int) (cb : Option Nat) (now : Int) (h0 : 0 ≤ now) (s s' : St K V)
    (t : Tid) (c : Choice K V) (δ : Nat) (hr : Reach dflt cb now s) (hs : step s (some t) c δ = some s')
    (hpc : (s.l t).pc = .getChkClock) :
    s'.g = s.g ∧ ∃ i op, (s.l t).loaded = some i ∧ (s.l t).op = some op ∧ (s.l t).nowAtLoad ≤ s.g.now ∧
      ((TTL.expired i.e s.g.now = false ∧ (s.l t).absAtLoad = some i ∧
          (((¬ ∃ k, op = .getWithTTL k ∧ 0 < i.e) ∧ (s'.l t).pc = .ret ∧
              (s'.l t).result = some (hitResult op i s.g.now)) ∨
           (∃ k, op = .getWithTTL k ∧ 0 < i.e ∧ (s'.l t).pc = .getTTLClock ∧ (s'.l t).loaded = some i))) ∨
       (TTL.expired i.e s.g.now = true ∧ (s'.l t).pc = .getCompute)) := by
  obtain ⟨_, hl, hst, _, _⟩ := reach_tstep h0 hr hs
  exact get_hindsight hl hpc hst

/-- **`GetWithTTL`'s second clock read**: a thread at `getTTLClock` is inside a `GetWithTTL k` and holds the item `i`
its call found (unexpired at the clock value `t0` the call read when it found it); its step changes nothing shared and
returns `i`'s value, `true`, and the lifetime `i.e - now` against the clock of *this* step -/
theorem C02_get_ttl (dflt : Int) (cb : Option Nat) (now : Int) (h0 : 0 ≤ now) (s s' : St K V)
    (t : Tid) (c : Choice K V) (δ : Nat) (hr : Reach dflt cb now s) (hs : step s (some t) c δ = some s')
    (hpc : (s.l t).pc = .getTTLClock) :
    s'.g = s.g ∧ ∃ i k t0, (s.l t).loaded = some i ∧ (s.l t).op = some (.getWithTTL k) ∧ 0 < i.e ∧
      (s.l t).nowAtLoad ≤ t0 ∧ t0 ≤ s.g.now ∧ TTL.expired i.e t0 = false ∧
      (s'.l t).pc = .ret ∧ (s'.l t).result = some (.valTTL i.v (i.e - s.g.now) true) := by
  obtain ⟨_, hl, hst, _, _⟩ := reach_tstep h0 hr hs
  obtain ⟨h1, i, k, t0, a1, a2, a3, a4, a5, a6, a7, a8, _⟩ := get_ttl_clock t s.g (s.l t) c s'.g (s'.l t) hl hpc hst
  exact ⟨h1, i, k, t0, a1, a2, a3, a4, a5, a6, a7, a8⟩

/-- **`GetWithTTL` end to end** (any run): thread `t` steps into `getTTLClock` from the reachable state `s`; then
anything happens except steps of `t` (`sched`); then `t` steps.  The call returns `valTTL i.v (i.e - now') true`, where
`i` is the abstract binding of `k` at the call's hindsight point (its `Load`, hit path) resp. at its linearization
point (the double-checked `Compute`, where the TTL semantics answers `valTTL i.v (i.e - s.g.now) true`), and
`now' ≥ s.g.now` is the clock at the last step -/
theorem C02_get_ttl_end_to_end (dflt : Int) (cb : Option Nat) (now : Int) (h0 : 0 ≤ now) (s s1 s2 s3 : St K V)
    (t : Tid) (c c' : Choice K V) (δ δ' : Nat) (sched : List (Option Tid × Choice K V × Nat))
    (hr : Reach dflt cb now s) (h1 : step s (some t) c δ = some s1) (hpc : (s1.l t).pc = .getTTLClock)
    (hq : ∀ x ∈ sched, x.1 ≠ some t) (h2 : run s1 sched = some s2) (h3 : step s2 (some t) c' δ' = some s3) :
    ∃ k i, (s.l t).op = some (.getWithTTL k) ∧ 0 < i.e ∧ TTL.expired i.e s.g.now = false ∧
      (((s.l t).pc = .getChkClock ∧ (s.l t).loaded = some i ∧ (s.l t).absAtLoad = some i ∧
          (s.l t).nowAtLoad ≤ s.g.now ∧ s1.g = s.g) ∨
       ((s.l t).pc = .getCompute ∧ s.g.abs.live.get k = some i ∧ s1.g.abs = s.g.abs ∧
          (TTL.step s.g.abs (.getWithTTL k)).2.1 = .valTTL i.v (i.e - s.g.now) true)) ∧
      s.g.now ≤ s2.g.now ∧ s3.g = s2.g ∧ (s3.l t).pc = .ret ∧
      (s3.l t).result = some (.valTTL i.v (i.e - s2.g.now) true) :=
  getWithTTL_second_clock dflt cb now h0 s s1 s2 s3 t c c' δ δ' sched hr h1 hpc hq h2 h3

/-- a miss of the lock-free `Load` is a miss of the abstract map at that instant -/
theorem C02_get_miss (dflt : Int) (cb : Option Nat) (now : Int) (h0 : 0 ≤ now) (s s' : St K V)
    (t : Tid) (c : Choice K V) (δ : Nat) (hr : Reach dflt cb now s) (hs : step s (some t) c δ = some s')
    (hpc : (s.l t).pc = .getLoad) (hret : (s'.l t).pc = .ret) :
    ∃ k op, opKey (s.l t) = some k ∧ (s.l t).op = some op ∧ s.g.abs.live.get k = none ∧
      (s'.l t).result = some (missResult op) := by
  obtain ⟨hg, _, hst, _, _⟩ := reach_tstep h0 hr hs
  exact get_miss hg hpc hst hret

/-- no call of the cache layer ever blocks in the model (the only waiting is inside the underlying map: C13) -/
theorem C02_no_blocking (dflt : Int) (cb : Option Nat) (now : Int) (h0 : 0 ≤ now) (s : St K V) (t : Tid) (c : Choice K V)
    (hr : Reach dflt cb now s) (h : (s.l t).pc ≠ .idle ∨ c.op.isSome = true) : (tstep t s.g (s.l t) c).isSome = true :=
  no_step_blocks ((inv_reach h0 hr).2 t) h

/-! ### Non-vacuity: `DeleteExpired` racing a fresh `Set` on an expired key (the schedule that broke the original
code) — in the model the fresh value survives -/
def exInit : St String Nat := init 10 none 0

example : ∃ s, run exInit
    [ (some 0, { op := some (.set "k" 1 5) }, 0), (some 0, {}, 0), (some 0, {}, 0), (some 0, {}, 0),   -- Set k 1 (ttl 5)
      (none, {}, 6),                                                                                   -- clock passes e
      (some 1, { op := some .deleteExpired }, 0), (some 1, {}, 0), (some 1, {}, 0),
      (some 1, { key := some "k", seen := some ⟨1, 5⟩ }, 0),                                           -- T1 sees k expired
      (some 2, { op := some (.set "k" 2 100) }, 0), (some 2, {}, 0), (some 2, {}, 0), (some 2, {}, 0), -- T2 stores fresh
      (some 1, {}, 0), (some 1, {}, 0), (some 1, {}, 0) ] = some s ∧
    s.g.items.get "k" = some ⟨2, 106⟩ ∧ s.g.abs.live.get "k" = some ⟨2, 106⟩ ∧ (s.l 1).pc = .ret := ⟨_, rfl, by decide, by decide, by decide⟩

/-! ### Non-vacuity: `GetWithTTL` reads the clock twice — the entry (`e = 5`) is found live at clock 2, the lifetime is
reported against clock 4 (`5 - 4 = 1`); with the second reading past the expiration instant the reported lifetime is
negative (as `time.Until` in the code) -/
example : ∃ s, run exInit
    [ (some 0, { op := some (.set "k" 1 5) }, 0), (some 0, {}, 0), (some 0, {}, 0), (some 0, {}, 0),   -- Set k 1 (ttl 5)
      (some 1, { op := some (.getWithTTL "k") }, 0), (some 1, {}, 0),                                  -- Load: hit
      (none, {}, 2), (some 1, {}, 0),                                                                  -- clock check at 2: live
      (none, {}, 2), (some 1, {}, 0) ] = some s ∧                                                      -- second clock read at 4
    (s.l 1).pc = .ret ∧ (s.l 1).result = some (.valTTL 1 1 true) := ⟨_, rfl, by decide, by decide⟩

example : ∃ s, run exInit
    [ (some 0, { op := some (.set "k" 1 5) }, 0), (some 0, {}, 0), (some 0, {}, 0), (some 0, {}, 0),
      (some 1, { op := some (.getWithTTL "k") }, 0), (some 1, {}, 0),
      (none, {}, 2), (some 1, {}, 0),
      (none, {}, 10), (some 1, {}, 0) ] = some s ∧
    (s.l 1).pc = .ret ∧ (s.l 1).result = some (.valTTL 1 (-7) true) := ⟨_, rfl, by decide, by decide⟩

/-! ### The concurrent model, run by one thread, is the source text

Every call of M5 executed alone from `idle` to `ret` with the clock standing still (for `DeleteExpired`: the
traversal handing over the entries of the map in order) ends in the state, result and fired callbacks of the
sequential step (`Proofs/ConcCacheSolo.lean`), which is what the interpreter of the Go subset computes from the
method bodies printed from the working tree (`DeepSource.step`).  That ties what M5's steps compute and carry in
their locals to the text of `xsync_map.go` / `xsync_mapof.go`; *where* a call may be interrupted is tied by
`C02_steps_are_source_actions` and by the step-level trace acceptance. -/

open Proofs.ConcCacheSolo in
theorem C02_solo_is_source (g : G K V) (op : COp K V) (T : Deep.Twin K V) (hT : DeepSource.IsTwin T) :
    ∃ cs, obs g (soloSteps g L.init (start op :: cs)) =
      (Deep.deepStep T (view g) (toSpec op)).map fun r => (r.1, r.2.cbs, Pc.ret, some r.2.out) := by
  obtain ⟨cs, h⟩ := solo_eq_m2 g op
  exact ⟨cs, by rw [h, DeepSource.step _ _ T hT]; rfl⟩

/-- **the steps of M5 are the atomic actions of the source text.**  The actions of a thread of M5 that runs a call
alone — one per step: a call on the underlying map with its key, a clock read or a setting access outside a closure
that runs under a bucket lock, a traversal visit, an evicted-callback invocation — are exactly, in order, the actions
the interpreter records when it runs the method body printed from the working tree (either file), and that traced run
ends in the state and result of the sequential step.  A closure handed to `Compute` is one action; a call that the
source splits differently (a second map call, a clock read moved out of a closure) does not match. -/
theorem C02_steps_are_source_actions (g : G K V) (op : COp K V) :
    (∃ cs t, DeepTraceCommon.soloTrace g L.init (Proofs.ConcCacheSolo.start op :: cs) = some t ∧
      Deep.deepTrace Deep.twinMapTr (view g) (toSpec op) =
        some ((Cache.step (view g) (toSpec op)).1, (Cache.step (view g) (toSpec op)).2, t)) ∧
    (∃ cs t, DeepTraceCommon.soloTrace g L.init (Proofs.ConcCacheSolo.start op :: cs) = some t ∧
      Deep.deepTrace Deep.twinMapOfTr (view g) (toSpec op) =
        some ((Cache.step (view g) (toSpec op)).1, (Cache.step (view g) (toSpec op)).2, t)) :=
  ⟨DeepTrace.trace_eq g op, DeepTraceOf.trace_eq g op⟩

end Props.C02
