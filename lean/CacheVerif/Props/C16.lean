import CacheVerif.Proofs.DeepLoadM
import CacheVerif.Proofs.ProtoLocks
import CacheVerif.Proofs.ProtoData
import CacheVerif.Proofs.ConcCacheLin
import CacheVerif.Proofs.DeepTrace
import CacheVerif.Proofs.DeepTraceOf
/-!
# C16 — reads never wait for writers: lookups finish while a writer or resize stalls

In M4a a lookup (`Load`, the lock-free fast path of `LoadOrStore`/`LoadOrCompute`) is three steps of the
caller (start, read the table pointer, read the chain); `Size` is two steps (start, read the table pointer) plus one
atomic load per counter stripe; no guard of these steps depends on any other thread, and they write nothing shared.
Hence from *every* state — reachable or not, whatever the other threads are doing: inside `valueFn`, between any two
of their atomic operations, between table copy and publish — a solo run of the reader finishes in 3 of its own steps
(`Size`: 2 + the number of stripes).  That the real multi-read scan of a chain (M4b) is bounded by the chain length in
a solo run is `C03_solo_reader` / `C04_solo_reader`.  Cache level (M5): `Get`, `GetWithExpiration`, `GetWithTTL` of a
present, unexpired key are a lock-free `Load` plus clock reads, never the `Compute` path.  Last section: the printed
text of `Load` of both tables and of `sumSize` contains no store, lock or blocking call.
-/
namespace Props.C16
open Model.Proto Proofs.ProtoLocks

variable {K V : Type} [DecidableEq K] (p : Params K)

/-- no lookup step can be blocked: the guards of the lookup pcs mention no other thread -/
theorem C16_no_wait (t : Tid) (g : G K V) (l : L K V) (c : Choice K V)
    (hpc : l.pc = .ldTable ∨ l.pc = .szTable ∨ l.pc = .szSum ∨ l.pc = .dcFast ∨ (l.pc = .ldRead ∧ (opKey l).isSome)) :
    (tstep p t g l c).isSome :=
  reader_never_blocked p t g l c hpc

/-- lookups take no lock and write nothing shared -/
theorem C16_reads_only (t : Tid) (g : G K V) (l : L K V) (c : Choice K V) (g' : G K V) (l' : L K V)
    (hpc : l.pc = .ldTable ∨ l.pc = .ldRead ∨ l.pc = .szTable ∨ l.pc = .szSum ∨ l.pc = .dcFast)
    (hs : tstep p t g l c = some (g', l')) : g' = g :=
  Proofs.ProtoData.ro_step_g (by rcases hpc with e | e | e | e | e <;> rw [e] <;> rfl) hs

/-- run thread `t` alone for `n` steps (every other thread frozen: the globals change only through `t`) -/
def soloRun (t : Tid) (g : G K V) (l : L K V) : List (Choice K V) → Option (G K V × L K V)
  | [] => some (g, l)
  | c :: cs =>
    match tstep p t g l c with
    | some (g', l') => soloRun t g' l' cs
    | none => none

/-- **solo run**: a `Load k` started in *any* global state — whatever the other threads are in the middle of —
completes in three steps of the caller alone (start, read the table pointer, read the chain), changes nothing
shared, and returns the content of the current table for `k` (the last completely written value: a half-done
insert is not yet in `data`) -/
theorem C16_solo_load (t : Tid) (g : G K V) (l : L K V) (k : K) (hl : l.pc = .idle) :
    match soloRun p t g l [{ op := some (.load k) }, {}, {}] with
    | some (g', l') => g' = g ∧ l'.pc = .ret ∧
        l'.result = some (.val ((g.tables g.cur).data.get k) ((g.tables g.cur).data.get k).isSome)
    | none => False := by
  simp [soloRun, tstep, hl, startOp, opKey]

/-- the `sumSize` loop of a solo `Size`: from stripe `si` with `k + 1` stripes left, `k + 1` steps of the caller
alone reach the return pc with the sum of all the stripes -/
theorem solo_sumSize (t : Tid) (g : G K V) (k : Nat) (l : L K V) (hpc : l.pc = .szSum)
    (hk : l.si + k + 1 = p.stripes (g.tables l.tbl).len)
    (hacc : l.acc = Proofs.ProtoData.psum (g.tables l.tbl).ctr l.si) :
    ∃ l', soloRun p t g l (List.replicate (k + 1) {}) = some (g, l') ∧ l'.pc = .ret ∧
      l'.result = some (.size ((g.tables l.tbl).total (p.stripes (g.tables l.tbl).len))) := by
  induction k generalizing l with
  | zero =>
    refine ⟨{ l with pc := .ret, result := some (.size (l.acc + (g.tables l.tbl).ctr l.si)) }, ?_, rfl, ?_⟩
    · have : ¬ l.si + 1 < p.stripes (g.tables l.tbl).len := by omega
      simp [soloRun, tstep, hpc, this]
    · have : p.stripes (g.tables l.tbl).len = l.si + 1 := by omega
      simp only [Proofs.ProtoData.total_eq, this, Proofs.ProtoData.psum_succ, hacc]
  | succ k ih =>
    have hlt : l.si + 1 < p.stripes (g.tables l.tbl).len := by omega
    obtain ⟨l', h1, h2, h3⟩ := ih { l with si := l.si + 1, acc := l.acc + (g.tables l.tbl).ctr l.si } hpc
      (by dsimp only; omega) (by dsimp only; rw [Proofs.ProtoData.psum_succ, hacc])
    refine ⟨l', ?_, h2, h3⟩
    rw [List.replicate_succ]
    simp only [soloRun, tstep, hpc, hlt, if_true]
    simp only [hpc] at h1
    exact h1

/-- **solo run of `Size`**: start, read the table pointer, one atomic load per stripe (`n` of them); returns the sum
of the stripes of the current table; nothing shared changes and no step can be blocked -/
theorem C16_solo_size (t : Tid) (g : G K V) (l : L K V) (hl : l.pc = .idle) (hst : 0 < p.stripes (g.tables g.cur).len) :
    match soloRun p t g l ({ op := some .size } :: {} :: List.replicate (p.stripes (g.tables g.cur).len) {}) with
    | some (g', l') => g' = g ∧ l'.pc = .ret ∧
        l'.result = some (.size ((g.tables g.cur).total (p.stripes (g.tables g.cur).len)))
    | none => False := by
  obtain ⟨k, hk⟩ : ∃ k, p.stripes (g.tables g.cur).len = k + 1 := ⟨p.stripes (g.tables g.cur).len - 1, by omega⟩
  obtain ⟨l', h1, h2, h3⟩ := solo_sumSize p t g k
    { (startOp l (.size : POp K V)) with pc := .szSum, tbl := g.cur, si := 0, acc := 0 } rfl (by dsimp only; omega) rfl
  rw [hk]
  simp only [soloRun, tstep, hl, startOp]
  simp only [startOp] at h1
  rw [h1]
  exact ⟨rfl, h2, by rw [h3, hk]⟩

def exP : Params Nat :=
  { growThr := fun n => n * 9 / 4, shrinkThr := fun n => n * 3 / 128, bkt := fun _ k => k, minLen := 2, growOnly := false,
    stripes := fun _ => 8 }

/-- the same on a concrete instance: 8 stripes, so `Size` takes 2 + 8 steps of the caller alone -/
example (t : Tid) (g : G Nat Nat) (l : L Nat Nat) (hl : l.pc = .idle) :
    ∃ l', soloRun exP t g l ({ op := some .size } :: List.replicate 9 {}) = some (g, l') ∧ l'.pc = .ret ∧
      l'.result = some (.size ((g.tables g.cur).total 8)) := by
  have h := C16_solo_size exP t g l hl (show 0 < 8 by decide)
  split at h
  · rename_i g' l' heq
    obtain ⟨rfl, h2, h3⟩ := h
    exact ⟨l', heq, h2, h3⟩
  · exact h.elim

/-- **the hit path of `LoadOrStore`/`LoadOrCompute`** never reaches a lock either: if the key is present the
call returns after the lock-free read, in three steps of the caller alone, without calling its function -/
theorem C16_solo_loadOrStore_hit (t : Tid) (g : G K V) (l : L K V) (k : K) (f : Option V → V × Bool) (x : V)
    (hl : l.pc = .idle) (hx : (g.tables g.cur).data.get k = some x) :
    match soloRun p t g l [{ op := some (.dc k f true false) }, {}, {}] with
    | some (g', l') => g' = g ∧ l'.pc = .ret ∧ l'.result = some (.val (some x) true) ∧ l'.fnCalls = 0
    | none => False := by
  simp [soloRun, tstep, hl, startOp, opKey, hx]

/-! ### cache level (M5): the hit path of the `Get` family -/
section cache
open Model.ConcCache Proofs.ConcCacheLin

variable {K V : Type} [DecidableEq K] [Inhabited V]

/-- the steps of the `Get` family outside its double-check `Compute` — the lock-free `Load`, the expiry test against
the clock, `GetWithTTL`'s second clock read — write nothing shared -/
theorem C16_cache_get_reads_only (t : Model.ConcCache.Tid) (g : Model.ConcCache.G K V) (l : Model.ConcCache.L K V)
    (c : Model.ConcCache.Choice K V) (g' : Model.ConcCache.G K V) (l' : Model.ConcCache.L K V)
    (hpc : l.pc = .getLoad ∨ l.pc = .getChkClock ∨ l.pc = .getTTLClock)
    (hs : Model.ConcCache.tstep t g l c = some (g', l')) : g' = g :=
  tstep_local (by rcases hpc with h | h | h <;> rw [h] <;> rfl) hs

/-- a `Get`-family call whose lock-free `Load` found an entry that is unexpired at its clock reading never takes
the write path (`Compute` under the bucket lock): it returns, or (GetWithTTL) reads the clock once more -/
theorem C16_cache_hit_never_computes (t : Model.ConcCache.Tid) (g : Model.ConcCache.G K V) (l : Model.ConcCache.L K V)
    (c : Model.ConcCache.Choice K V) (g' : Model.ConcCache.G K V) (l' : Model.ConcCache.L K V)
    (i : Model.Item V) (hpc : l.pc = .getChkClock) (hl : l.loaded = some i)
    (hlive : Gen.item_expired i.e g.now = false)
    (hs : Model.ConcCache.tstep t g l c = some (g', l')) :
    g' = g ∧ (l'.pc = .ret ∨ l'.pc = .getTTLClock) := by
  have h := Proofs.ConcCacheStep.step_of_tstep hs
  rw [hpc] at h
  cases h
  case chkHit => exact ⟨rfl, Or.inl rfl⟩
  case chkTTL => exact ⟨rfl, Or.inr rfl⟩
  case chkDead i' op hi' ho he =>
    cases hl.symm.trans hi'
    rw [Proofs.LeafCache.item_expired_eq, he] at hlive; cases hlive

/-- **the lookups of the cache layer read only, in the source text.**  The atomic actions the tracing interpreter
records when it runs `Get`, `GetWithExpiration`, `GetWithTTL` of either file on an absent key or on a key whose entry is
unexpired, and `Count`, are lock-free `Load`s of the underlying map, `Size`, and clock reads: no `Compute` (hence no
bucket lock, nothing to wait for), no store.  (On an expired-but-uncleaned entry `get` does go through `Compute`: the
lazy delete; the property is about live and absent keys.) -/
theorem C16_source_lookups_read_only (s : Model.CSt K V) (k : K) :
    (s.items.get k = none ∨ ∃ i, s.items.get k = some i ∧ Gen.item_expired i.e s.now = false) →
    ∀ op ∈ [Model.Op.get k, .getWithExpiration k, .getWithTTL k, .count],
      (∃ t, (Deep.deepTrace Deep.twinMapTr s op).map (·.2.2) = some t ∧ t.all DeepTrace.readOnly = true) ∧
      (∃ t, (Deep.deepTrace Deep.twinMapOfTr s op).map (·.2.2) = some t ∧ t.all DeepTraceOf.readOnly = true) := by
  intro h op hop
  simp only [List.mem_cons, List.mem_nil_iff, or_false] at hop
  -- what a call does is `actions`, whatever the file
  have hro : DeepActions.isCall op ∧ (DeepActions.actions s op).all DeepTrace.readOnly = true := by
    rcases hop with rfl | rfl | rfl | rfl <;> refine ⟨trivial, ?_⟩ <;> rcases h with hg | ⟨i, hg, he⟩ <;>
      simp [DeepActions.actions, DeepActions.getEvs, DeepTrace.readOnly, *]
  exact ⟨⟨_, DeepTrace.trace_actions s op hro.1, hro.2⟩, ⟨_, DeepTraceOf.trace_actions s op hro.1, hro.2⟩⟩

end cache

/-! ### the text of the lookups, printed from the source, cannot write or lock -/

/-- **the bodies of `(*MapOf).Load`, `(*Map).Load` and `sumSize` contain no store and no allocation** - on any path,
not only the executed ones - and, the printer (`go2deep -table`) having accepted them, nothing but local variables,
plain and atomic *loads*, leaf functions of `internal/xsync`, conversions and control flow: no lock, no CAS, no
condition variable, no call that could block (a syntactic check of the text regenerated on every run;
`appendToBucketOf` fails it, as it must).  Together with `C10_source_load_is_word_search` /
`C10_source_mapload_is_tophash_search` - the calls end within a number of iterations bounded by the chain length - this
is the source-level half of "a lookup never waits". -/
theorem C16_source_lookups_cannot_write :
    Gen.Deep.T_MapOf_Load.body.readOnly = true ∧ Gen.Deep.T_Map_Load.body.readOnly = true ∧
    Gen.Deep.T_mapOfTable_sumSize.body.readOnly = true ∧ Gen.Deep.T_mapTable_sumSize.body.readOnly = true ∧
    Gen.Deep.T_appendToBucketOf.body.readOnly = false := ⟨rfl, rfl, rfl, rfl, rfl⟩

end Props.C16
