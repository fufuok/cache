import CacheVerif.Props.C01
import CacheVerif.Props.C11
import CacheVerif.Proofs.ProtoData
import CacheVerif.Proofs.ProtoRange
import CacheVerif.Proofs.ProtoLin
import CacheVerif.Proofs.DeepSource
import CacheVerif.Proofs.CacheWalk
/-!
# C07 — Range/Items visit each qualifying entry once, never a phantom or expired one

Sequential part (no concurrent writer): `Range` calls the visitor on the live entries (caches: unexpired when
the traversal began) in *some* enumeration order, each key at most once, each pair exactly as stored, stops
immediately when the visitor returns false, and visits everything when it never does; `Items` is exactly the
live content; a nil visitor does nothing.  For the tables the same holds for any hash, seeds and layout.
Concurrent part (section "concurrent traversals": M4a, every schedule; traversal against writers, grow, shrink,
`Clear`, re-entrant visitors; the visitor never stops the traversal): at most once per key (`C07_at_most_once`,
`C07_result_once`), never a phantom (`C07_no_phantom`), every entry that stays put (`C07_complete`).
**Partial**: that a visited pair was current at some moment of the traversal (`C07_real_partial`), and with it exactness
when nobody writes (`C07_exact_when_unmodified`) and the three clauses for the text of `Cache.Range` / `CacheOf.Range`
over the protocol (`C07_cache_over_protocol`), are proved only for windows in which no `Clear` publishes its empty
table; across a publishing `Clear` there are `C07_no_phantom` and `C07_snapshot_exact`.
-/
namespace Props.C07
open Spec Model Proofs.CacheRefine

variable {K V : Type} [DecidableEq K] [Inhabited V]

/-- the visitor walk visits a prefix of the enumeration … -/
theorem walk_prefix (f : K → V → Bool) (l : List (K × Item V)) :
    TTL.walk f l <+: l.map (fun p => (p.1, p.2.v)) :=
  Proofs.CacheWalk.walk_prefix f l

/-- … and stops immediately when the visitor returns false: every visited pair except the last one was
accepted by the visitor -/
theorem walk_stops (f : K → V → Bool) (l : List (K × Item V)) :
    ∀ x ∈ (TTL.walk f l).dropLast, f x.1 x.2 = true :=
  Proofs.CacheWalk.walk_stops f l

/-- a visitor that never returns false sees every entry -/
theorem walk_all (f : K → V → Bool) (l : List (K × Item V)) (h : ∀ p ∈ l, f p.1 p.2.v = true) :
    TTL.walk f l = l.map fun p => (p.1, p.2.v) :=
  walk_true f l h

/-- **cache `Range`**: the visits are a prefix of an enumeration `π` of exactly the live entries -/
theorem C07_cache_range (s : Cache.St K V) (a : TTL.St K V) (h : Sim s a) (f : K → V → Bool) :
    ∃ π : List (K × Item V), π.Perm a.live ∧ (Cache.step s (.range f)).2.out = .visits (TTL.walk f π) ∧
      (π.map (·.1)).Nodup ∧ (∀ p ∈ π, a.live.get p.1 = some p.2) ∧ (Cache.step s (.range f)).1 = s := by
  obtain ⟨_, ⟨π, hp, ho⟩, _⟩ := step_sim h (.range f)
  refine ⟨π, hp, ho, ?_, ?_, rfl⟩
  · have : (a.live.map (·.1)).Nodup := h.awf
    exact (List.Perm.nodup_iff (List.Perm.map _ hp)).mpr this
  · intro p hp'
    exact AMap.get_of_mem _ h.awf p.1 p.2 ((List.Perm.mem_iff hp).mp hp')

/-- never an expired entry: everything `Range` may visit is unexpired at the traversal's clock -/
theorem C07_cache_range_unexpired (s : Cache.St K V) (a : TTL.St K V) (h : Sim s a) (k : K) (i : Item V)
    (hl : a.live.get k = some i) : TTL.expired i.e s.now = false :=
  (h.live_some hl).2

/-- **`Items`** is exactly the live content (as a set of pairs, each key once) -/
theorem C07_cache_items (s : Cache.St K V) (a : TTL.St K V) (h : Sim s a) :
    ∃ π : List (K × Item V), π.Perm a.live ∧ (Cache.step s .items).2.out = .items (π.map fun p => (p.1, p.2.v)) :=
  (step_sim h .items).2.1

/-- the same for the text of `Range` in both cache-layer files (printed from the working tree, run by the
interpreter of the Go subset): the visitor is called on an enumeration of exactly the entries that are live at the
traversal's clock, each once, until it returns false, and nothing is modified -/
theorem C07_source_range (s : Cache.St K V) (a : TTL.St K V) (h : Sim s a) (f : K → V → Bool)
    (T : Deep.Twin K V) (hT : DeepSource.IsTwin T) :
    ∃ s' r, Deep.deepStep T s (.range f) = some (s', r) ∧ s' = s ∧
      ∃ π : List (K × Item V), π.Perm a.live ∧ r.out = .visits (TTL.walk f π) ∧ (π.map (·.1)).Nodup := by
  obtain ⟨π, hp, ho, hn, _, hs⟩ := C07_cache_range s a h f
  exact ⟨_, _, DeepSource.step s _ T hT, hs, π, hp, ho, hn⟩

/-- `Items` of both files: exactly the live entries -/
theorem C07_source_items (s : Cache.St K V) (a : TTL.St K V) (h : Sim s a) (T : Deep.Twin K V) (hT : DeepSource.IsTwin T) :
    ∃ s' r, Deep.deepStep T s .items = some (s', r) ∧
      ∃ π : List (K × Item V), π.Perm a.live ∧ r.out = .items (π.map fun p => (p.1, p.2.v)) := by
  obtain ⟨π, hp, ho⟩ := C07_cache_items s a h
  exact ⟨_, _, DeepSource.step s _ T hT, π, hp, ho⟩

/-! ### Cache-level `Range` / `Items` concurrent with writers

At the cache layer `Range` is a reader: it reads the clock once and hands the underlying map's `Range` a closure that
skips entries expired at that instant and calls the user's visitor on the others.  What the map hands that closure
while other goroutines write is the business of C07 at map level (M4a, below).  `MapRangeOK` states that guarantee for
the pairs `π` handed over and the contents `H` the map went through during the traversal; `C07_cache_conc` derives the
property for the cache from it, for **the text of `Range` in both files** (`deep_range_handed`: the interpreter run on
the generated method body with the map handing over `π`). -/

/-- the map-level guarantee (C07 for Map / MapOf) about the pairs `π` a traversal hands to its visitor, `H` being the
contents of the map during the traversal -/
structure MapRangeOK (H : List (AMap K (Item V))) (π : List (K × Item V)) : Prop where
  /-- at most once per key -/
  once : (π.map (·.1)).Nodup
  /-- only a value the key really held at some moment of the traversal -/
  real : ∀ p ∈ π, ∃ m ∈ H, m.get p.1 = some p.2
  /-- every binding that stayed put for the whole traversal -/
  complete : ∀ k i, (∀ m ∈ H, m.get k = some i) → (k, i) ∈ π

/-- what the visitor loop of the cache's `Range` makes of handed pairs with the map-level guarantee: the three clauses
of the property, for the pairs unexpired at the clock `now` the traversal read -/
theorem MapRangeOK.walk {H : List (AMap K (Item V))} {π : List (K × Item V)} (hok : MapRangeOK H π) (now : Int)
    (f : K → V → Bool) :
    ((Cache.walk now f π).map (·.1)).Nodup ∧
    (∀ k v, (k, v) ∈ Cache.walk now f π → ∃ i, i.v = v ∧ (∃ m ∈ H, m.get k = some i) ∧ TTL.expired i.e now = false) ∧
    ((∀ k v, f k v = true) → ∀ k i, (∀ m ∈ H, m.get k = some i) → TTL.expired i.e now = false →
      (k, i.v) ∈ Cache.walk now f π) := by
  refine ⟨List.Nodup.sublist (Proofs.CacheWalk.walk_keys_sublist now f π) hok.once, fun k v hv => ?_,
    fun hf k i hst hx => Proofs.CacheWalk.walk_complete now f hf π k i (hok.complete k i hst) hx⟩
  obtain ⟨i, hi, hv', hx⟩ := Proofs.CacheWalk.mem_walk now f π k v hv
  exact ⟨i, hv'.symm, hok.real (k, i) hi, hx⟩

/-- **C07, cache level, any concurrent history.**  With the map-level guarantee for the pairs handed over, `Range` of
either file calls the user's visitor (1) at most once per key, (2) only with a value that was stored under that key
at some moment of the traversal and was unexpired when the traversal began, (3) - if the visitor never stops - on
every entry that stays present for the whole traversal and was unexpired when it began; and it modifies nothing. -/
theorem C07_cache_conc (s : Cache.St K V) (f : K → V → Bool) (H : List (AMap K (Item V))) (π : List (K × Item V))
    (hok : MapRangeOK H π) :
    ∃ visits,
      Deep.deepStep (Deep.twinMapHanded π) s (.range f) = some (s, { out := .visits visits }) ∧
      Deep.deepStep (Deep.twinMapOfHanded π) s (.range f) = some (s, { out := .visits visits }) ∧
      (visits.map (·.1)).Nodup ∧
      (∀ k v, (k, v) ∈ visits → ∃ i, i.v = v ∧ (∃ m ∈ H, m.get k = some i) ∧ TTL.expired i.e s.now = false) ∧
      ((∀ k v, f k v = true) → ∀ k i, (∀ m ∈ H, m.get k = some i) → TTL.expired i.e s.now = false → (k, i.v) ∈ visits) := by
  refine ⟨Cache.walk s.now f π, DeepCache.deep_range_handed s f π, ?_, hok.walk s.now f⟩
  rw [DeepCacheOf.deep_range_handed, Proofs.Twin.walk_eq]

/-- `Items` under the same guarantee: exactly one pair per handed key that was unexpired when the call began -/
theorem C07_cache_items_conc (s : Cache.St K V) (H : List (AMap K (Item V))) (π : List (K × Item V)) (hok : MapRangeOK H π) :
    ∃ l, Deep.deepStep (Deep.twinMapHanded π) s .items = some (s, { out := .items l }) ∧
      (l.map (·.1)).Nodup ∧
      (∀ k i, (∀ m ∈ H, m.get k = some i) → TTL.expired i.e s.now = false → (k, i.v) ∈ l) ∧
      (∀ k v, (k, v) ∈ l → ∃ i, i.v = v ∧ (∃ m ∈ H, m.get k = some i) ∧ TTL.expired i.e s.now = false) := by
  obtain ⟨h1, h2, h3⟩ := hok.walk s.now fun _ _ => true
  exact ⟨_, DeepCache.deep_items_handed s π, h1, h3 fun _ _ => rfl, h2⟩

/-- the guarantee is satisfiable (a traversal of a map nobody writes to): not vacuous -/
example : MapRangeOK [([("a", ⟨1, 0⟩), ("b", ⟨2, 5⟩)] : AMap String (Item Nat))] [("a", ⟨1, 0⟩), ("b", ⟨2, 5⟩)] :=
  ⟨by decide, by decide, fun k i h => AMap.mem_of_get _ k i (h _ (List.mem_singleton.mpr rfl))⟩

/-- a nil visitor is ignored -/
theorem C07_cache_range_nil (s : Cache.St K V) : Cache.step s .rangeNil = (s, { out := .unit }) := rfl

/-- **table `Range`** (Map and MapOf, any hash/seeds/layout): the visits are a prefix of an enumeration of
exactly the map's entries; nothing is modified -/
theorem C07_table_range (var : Model.Table.Variant) (hv : Proofs.TableRefine.GoodVariant var) (env : Model.Table.Env K)
    (sp : AMap K V) (m : Model.Table.St K V) (h : Proofs.TableRefine.Sim var env sp m) (f : K → V → Bool) :
    ∃ π : List (K × V), π.Perm sp ∧ (Model.Table.step var env m (.range f)).2.out = .visits (Model.Table.walk f π) :=
  (Proofs.TableRefine.step_refines var env hv sp m h (.range f)).2.1

/-! ### Non-vacuity -/
example : (Cache.step C01.exS (.range fun k _ => k != "live")).2.out = .visits [("live", 1)] := by decide
example : (Cache.step C01.exS (.range fun _ _ => true)).2.out = .visits [("live", 1), ("forever", 3)] := by decide

/-! ### concurrent traversals (M4a, all schedules, re-entrant visitors included) -/
section conc
open Model.Proto Proofs.ProtoData
variable {K : Type} {V : Type} [DecidableEq K] (p : Params K)

/-- **at most once per key**: at every point of a traversal the keys visited so far plus the keys of the bucket
snapshot in hand are pairwise distinct (a key has one root bucket per table generation, the snapshot is taken
under that bucket's lock, and a generation holds no key twice) — also while other threads store, delete, grow,
shrink or clear, and while the visitor itself calls back into the container -/
theorem C07_at_most_once (hmin : 0 < p.minLen) (s : Model.Proto.St K V) (h : Reach p s) (u : Model.Proto.Tid)
    (hpc : (s.l u).pc = .rgVisit ∨ (s.l u).pc = .rgLock ∨ (s.l u).pc = .rgCopy ∨ (s.l u).pc = .rgUnlock) :
    (AMap.keys ((s.l u).visited ++ (s.l u).snap)).Nodup :=
  ((Proofs.ProtoRange.rinv_reach hmin h u).1 (by rcases hpc with e | e | e | e <;> rw [e] <;> rfl)).1.1

/-- **only real entries**: a bucket snapshot is exactly the content of that bucket of the traversed generation at
the instant it is taken (under the bucket lock) -/
theorem C07_snapshot_exact (s : Model.Proto.St K V) (h : Reach p s) (t : Model.Proto.Tid) (c : Choice K V)
    (g' : Model.Proto.G K V) (l' : L K V) (hpc : (s.l t).pc = .rgCopy) (hs : tstep p t s.g (s.l t) c = some (g', l')) :
    g' = s.g ∧ l'.snap = bucketEntries p s.g (s.l t).tbl (s.l t).ri ∧ l'.visited = (s.l t).visited := by
  simp only [tstep, hpc, Option.some.injEq, Prod.mk.injEq] at hs
  obtain ⟨rfl, rfl⟩ := hs
  exact ⟨rfl, rfl, rfl⟩

/-! #### the whole call: the window of one `Range`

`Trav p u d s0 sts s1` (`Proofs/ProtoRange.lean`): `sts` are the states from `s0` to `s1` of *any* execution fragment
(any threads, any calls, grow / shrink / `Clear`, the visitor of `u` calling back into the map) during which the call
of thread `u` at visitor-nesting depth `d` does not return before `s1`, and in which the visitor of `u` never stops a
traversal.  Below, `s0` is the state in which `u` is about to load the table pointer and `s1` the state in which that
call returns the list `π`. -/

/-- **every entry that stays put is visited** (all schedules): a pair bound in the current table in every state of the
window is among the pairs handed to the visitor.  (A generation retired by a grow or a shrink is frozen - no writer
that passed its checks is still inside it; one retired by `Clear` is not, but then the key is no longer bound.) -/
theorem C07_complete (hmin : 0 < p.minLen) (u : Model.Proto.Tid) (s0 s1 : Model.Proto.St K V)
    (sts : List (Model.Proto.St K V)) (π : List (K × V)) (h0 : Reach p s0) (hpc : (s0.l u).pc = .rgTable)
    (htr : Proofs.ProtoRange.Trav p u (s0.l u).frames.length s0 sts s1)
    (hret : (s1.l u).pc = .ret) (hdep : (s1.l u).frames.length = (s0.l u).frames.length)
    (hres : (s1.l u).result = some (.visits π)) :
    ∀ k v, (∀ σ ∈ sts, absGet σ.g k = some v) → (k, v) ∈ π :=
  Proofs.ProtoRange.trav_complete p hmin u s0 s1 sts π h0 hpc htr hret hdep hres

/-- **at most once per key**, for the list any `Range` call returns (all schedules) -/
theorem C07_result_once (hmin : 0 < p.minLen) (s : Model.Proto.St K V) (h : Reach p s) (u : Model.Proto.Tid)
    (π : List (K × V)) (hres : (s.l u).result = some (.visits π)) : (π.map (·.1)).Nodup :=
  Proofs.ProtoRange.result_nodup p hmin s h u π hres

/-- **only real entries, partial** (all schedules in which no `Clear` publishes its empty table during the call):
every pair handed over was bound to its key in the current table in one of the states of the window.
Missing for the full statement: a `Clear` publishing during the call lets a writer that had passed its checks commit
into the retired generation, and the traversal may hand that pair over; the helping step of `Clear` linearizes that
write *before* the `Clear` (`C03_C04_writer_linearizable`, second case), so the pair was current in the linearization,
but the current table never held it.  For those windows the statement is `C07_snapshot_exact` (the pair was in the
walked generation). -/
theorem C07_real_partial (hmin : 0 < p.minLen) (u : Model.Proto.Tid) (s0 s1 : Model.Proto.St K V)
    (sts : List (Model.Proto.St K V)) (π : List (K × V)) (h0 : Reach p s0) (hpc : (s0.l u).pc = .rgTable)
    (htr : Proofs.ProtoRange.Trav p u (s0.l u).frames.length s0 sts s1)
    (hncs : ∀ σ ∈ sts, Proofs.ProtoRange.NoClearPublish σ)
    (hret : (s1.l u).pc = .ret) (hdep : (s1.l u).frames.length = (s0.l u).frames.length)
    (hres : (s1.l u).result = some (.visits π)) :
    ∀ e ∈ π, ∃ σ ∈ sts, absGet σ.g e.1 = some e.2 :=
  Proofs.ProtoRange.trav_real_partial p hmin u s0 s1 sts π h0 hpc htr hncs hret hdep hres

/-- **never a phantom** (every schedule, `Clear` included): every pair in the list a `Range` call returns was stored under
that very key by the commit step of a writer (`Store`, `LoadOrStore`, `LoadAndStore`, `LoadOrCompute`, `Compute`)
earlier in the run (`commits`: the pairs stored by the commit steps of the schedule) -/
theorem C07_no_phantom (hmin : 0 < p.minLen) (sched : List (Model.Proto.Tid × Choice K V)) (s : Model.Proto.St K V)
    (hrun : Model.Proto.run p (Model.Proto.init p) sched = some s) (u : Model.Proto.Tid) (π : List (K × V))
    (hres : (s.l u).result = some (.visits π)) :
    ∀ e ∈ π, e ∈ Proofs.ProtoRange.commits p (Model.Proto.init p) sched :=
  Proofs.ProtoRange.range_no_phantom p sched s hrun u π hres

end conc

/-- **the hypothesis of `C07_cache_conc` is a theorem about M4a** (windows without a publishing `Clear`): the pairs a
`Range` of the table protocol returns and the contents the current table went through satisfy `MapRangeOK`. -/
theorem C07_map_range_ok_partial {K V : Type} [DecidableEq K] (p : Model.Proto.Params K) (hmin : 0 < p.minLen)
    (u : Model.Proto.Tid) (s0 s1 : Model.Proto.St K (Item V))
    (sts : List (Model.Proto.St K (Item V))) (π : List (K × Item V)) (h0 : Model.Proto.Reach p s0)
    (hpc : (s0.l u).pc = .rgTable) (htr : Proofs.ProtoRange.Trav p u (s0.l u).frames.length s0 sts s1)
    (hncs : ∀ σ ∈ sts, Proofs.ProtoRange.NoClearPublish σ)
    (hret : (s1.l u).pc = .ret) (hdep : (s1.l u).frames.length = (s0.l u).frames.length)
    (hres : (s1.l u).result = some (.visits π)) :
    MapRangeOK (sts.map fun σ => (σ.g.tables σ.g.cur).data) π := by
  have hreach1 : Model.Proto.Reach p s1 := htr.reach h0
  refine ⟨C07_result_once p hmin s1 hreach1 u π hres, ?_, ?_⟩
  · intro e he
    obtain ⟨σ, hσ, h⟩ := C07_real_partial p hmin u s0 s1 sts π h0 hpc htr hncs hret hdep hres e he
    exact ⟨_, List.mem_map.mpr ⟨σ, hσ, rfl⟩, h⟩
  · intro k i hall
    refine C07_complete p hmin u s0 s1 sts π h0 hpc htr hret hdep hres k i (fun σ hσ => ?_)
    exact hall _ (List.mem_map.mpr ⟨σ, hσ, rfl⟩)

/-- **the cache's `Range` over the table protocol** (both files, every schedule without a publishing `Clear`):
`C07_cache_conc` with its hypothesis discharged by `C07_map_range_ok_partial`.  When the map underneath is M4a and its
`Range` call went through the window `sts` and returned `π`, the text of `Cache.Range` / `CacheOf.Range` calls the
user's visitor at most once per key, only on values that key held in the current table in some state of the window
and that were unexpired when the traversal began, and - if the visitor never stops - on every entry that stayed in the
current table throughout and was unexpired when the traversal began -/
theorem C07_cache_over_protocol {K V : Type} [DecidableEq K] [Inhabited V] (p : Model.Proto.Params K) (hmin : 0 < p.minLen)
    (u : Model.Proto.Tid) (s0 s1 : Model.Proto.St K (Item V))
    (sts : List (Model.Proto.St K (Item V))) (π : List (K × Item V)) (h0 : Model.Proto.Reach p s0)
    (hpc : (s0.l u).pc = .rgTable) (htr : Proofs.ProtoRange.Trav p u (s0.l u).frames.length s0 sts s1)
    (hncs : ∀ σ ∈ sts, Proofs.ProtoRange.NoClearPublish σ)
    (hret : (s1.l u).pc = .ret) (hdep : (s1.l u).frames.length = (s0.l u).frames.length)
    (hres : (s1.l u).result = some (.visits π)) (s : Cache.St K V) (f : K → V → Bool) :
    ∃ visits,
      Deep.deepStep (Deep.twinMapHanded π) s (.range f) = some (s, { out := .visits visits }) ∧
      Deep.deepStep (Deep.twinMapOfHanded π) s (.range f) = some (s, { out := .visits visits }) ∧
      (visits.map (·.1)).Nodup ∧
      (∀ k v, (k, v) ∈ visits → ∃ i, i.v = v ∧ (∃ σ ∈ sts, Proofs.ProtoData.absGet σ.g k = some i) ∧ TTL.expired i.e s.now = false) ∧
      ((∀ k v, f k v = true) → ∀ k i, (∀ σ ∈ sts, Proofs.ProtoData.absGet σ.g k = some i) → TTL.expired i.e s.now = false →
        (k, i.v) ∈ visits) := by
  have hok := C07_map_range_ok_partial p hmin u s0 s1 sts π h0 hpc htr hncs hret hdep hres
  obtain ⟨visits, h1, h2, h3, h4, h5⟩ := C07_cache_conc s f _ π hok
  refine ⟨visits, h1, h2, h3, ?_, ?_⟩
  · intro k v hv
    obtain ⟨i, hi, ⟨m, hm, hg⟩, hx⟩ := h4 k v hv
    obtain ⟨σ, hσ, rfl⟩ := List.mem_map.mp hm
    exact ⟨i, hi, ⟨σ, hσ, hg⟩, hx⟩
  · intro hf k i hall hx
    exact h5 hf k i (fun m hm => by obtain ⟨σ, hσ, rfl⟩ := List.mem_map.mp hm; exact hall σ hσ) hx

/-- **with no concurrent writer the traversal is exact - also while the table grows or shrinks**: if the content of the
current table is the same in every state of the window (other threads may read, traverse and resize; no `Clear`
publishes), the pairs handed over are exactly the entries of the map, each once -/
theorem C07_exact_when_unmodified {K V : Type} [DecidableEq K] (p : Model.Proto.Params K) (hmin : 0 < p.minLen)
    (u : Model.Proto.Tid) (s0 s1 : Model.Proto.St K V) (sts : List (Model.Proto.St K V)) (π : List (K × V))
    (h0 : Model.Proto.Reach p s0) (hpc : (s0.l u).pc = .rgTable)
    (htr : Proofs.ProtoRange.Trav p u (s0.l u).frames.length s0 sts s1)
    (hncs : ∀ σ ∈ sts, Proofs.ProtoRange.NoClearPublish σ)
    (hret : (s1.l u).pc = .ret) (hdep : (s1.l u).frames.length = (s0.l u).frames.length)
    (hres : (s1.l u).result = some (.visits π))
    (hconst : ∀ σ ∈ sts, ∀ k, Proofs.ProtoData.absGet σ.g k = Proofs.ProtoData.absGet s0.g k) :
    π.Perm (s0.g.tables s0.g.cur).data := by
  have hwf : AMap.WF (s0.g.tables s0.g.cur).data := (Proofs.ProtoData.dinv_reach hmin h0).gd.wf _
  have honce : AMap.WF π := C07_result_once p hmin s1 (htr.reach h0) u π hres
  refine (List.perm_ext_iff_of_nodup (AMap.nodup_of_WF _ honce) (AMap.nodup_of_WF _ hwf)).mpr fun e => ⟨fun he => ?_, fun he => ?_⟩
  · obtain ⟨σ, hσ, h⟩ := C07_real_partial p hmin u s0 s1 sts π h0 hpc htr hncs hret hdep hres e he
    exact AMap.mem_of_get _ _ _ ((hconst σ hσ _).symm.trans h)
  · exact C07_complete p hmin u s0 s1 sts π h0 hpc htr hret hdep hres e.1 e.2
      fun σ hσ => (hconst σ hσ _).trans (AMap.get_of_mem _ hwf e.1 e.2 he)

/-! #### non-vacuity: a concrete window.  Thread 0 has stored `1 ↦ 5`; thread 1 runs `Range` while thread 0 stores
`3 ↦ 7`; the window meets every hypothesis above and the call returns both pairs. -/
section example_window
open Model.Proto Proofs.ProtoRange

def exP : Params Nat := { growThr := fun n => n * 9 / 4, shrinkThr := fun n => n * 3 / 128, bkt := fun _ k => k, minLen := 2, growOnly := false, stripes := fun _ => 8 }

def nop : Choice Nat Nat := {}

/-- `Store(1, 5)` by thread 0, then thread 1 enters `Range` -/
def exPre : List (Tid × Choice Nat Nat) :=
  (0, { op := some (.dc 1 (fun _ => (5, false)) false false) }) :: List.replicate 11 (0, nop) ++
  [(1, { op := some .range })]

/-- thread 1 walks root bucket 0; thread 0 runs `Store(3, 7)` to completion; thread 1 walks root bucket 1 and returns -/
def exMid : List (Tid × Choice Nat Nat) :=
  List.replicate 4 (1, nop) ++ [(0, { op := some (.dc 3 (fun _ => (7, false)) false false) })] ++
  List.replicate 11 (0, nop) ++ List.replicate 8 (1, nop)

def exS0 : St Nat Nat := (run exP (init exP) exPre).getD (init exP)
theorem exS0_run : run exP (init exP) exPre = some exS0 := rfl
def exRes : List (St Nat Nat) × St Nat Nat := (travRun exP 1 0 exS0 exMid).getD ([], exS0)
theorem exRes_eq : travRun exP 1 0 exS0 exMid = some (exRes.1, exRes.2) := rfl

example : ∃ (s0 s1 : St Nat Nat) (sts : List (St Nat Nat)) (π : List (Nat × Nat)),
    Reach exP s0 ∧ (s0.l 1).pc = .rgTable ∧ Trav exP 1 (s0.l 1).frames.length s0 sts s1 ∧
    (∀ σ ∈ sts, NoClearPublish σ) ∧ (s1.l 1).pc = .ret ∧ (s1.l 1).frames.length = (s0.l 1).frames.length ∧
    (s1.l 1).result = some (.visits π) ∧ (∀ σ ∈ sts, Proofs.ProtoData.absGet σ.g 1 = some 5) ∧
    π = [(3, 7), (1, 5)] := by
  refine ⟨exS0, exRes.2, exRes.1, [(3, 7), (1, 5)], ⟨exPre, exS0_run⟩, rfl,
    travRun_sound exP 1 0 exMid exS0 exRes.2 exRes.1 exRes_eq, ?_, rfl, rfl, rfl, ?_, rfl⟩
  · have h : ∀ σ ∈ exRes.1, σ.g.resizer = none := by decide
    intro σ hσ w hw
    rw [h σ hσ] at hw; cases hw
  · decide

/-- a second window, with a **re-entrant visitor**: thread 1 walks root bucket 0, its visitor calls `Store(3, 7)` on the
same map (a nested call: the traversal is suspended in `frames` and resumed when the call returns), then the traversal
walks root bucket 1 and returns both pairs; `1 ↦ 5` stayed put throughout -/
def exMidV : List (Tid × Choice Nat Nat) :=
  List.replicate 4 (1, nop) ++ [(1, { op := some (.dc 3 (fun _ => (7, false)) false false) })] ++ List.replicate 19 (1, nop)

def exResV : List (St Nat Nat) × St Nat Nat := (travRun exP 1 0 exS0 exMidV).getD ([], exS0)
theorem exResV_eq : travRun exP 1 0 exS0 exMidV = some (exResV.1, exResV.2) := rfl

example : Trav exP 1 (exS0.l 1).frames.length exS0 exResV.1 exResV.2 ∧ (exResV.2.l 1).pc = .ret ∧
    (exResV.2.l 1).frames.length = (exS0.l 1).frames.length ∧ (exResV.2.l 1).result = some (.visits [(3, 7), (1, 5)]) ∧
    (∀ σ ∈ exResV.1, Proofs.ProtoData.absGet σ.g 1 = some 5) ∧
    (∃ σ ∈ exResV.1, ((σ.l 1).frames.length = 1)) :=
  ⟨travRun_sound exP 1 0 exMidV exS0 exResV.2 exResV.1 exResV_eq, rfl, rfl, rfl, by decide, by decide⟩

/-- the two pairs of that run were stored by its two commit steps -/
example : commits exP (init exP) (exPre ++ exMid) = [(1, 5), (3, 7)] := by decide +kernel

end example_window

end Props.C07
