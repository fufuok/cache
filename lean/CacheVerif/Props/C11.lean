import CacheVerif.Proofs.Wrappers
import CacheVerif.Proofs.TableRefine
import CacheVerif.Proofs.DeepAppend
import CacheVerif.Proofs.DeepLoad
import CacheVerif.Proofs.CopyRep
import CacheVerif.Proofs.StoreSpec
/-!
# C11 — contents never depend on capacity, resize history, hash seed or bucket layout

`Model.Table` (M3) is the sequential model of `xsync.Map` / `xsync.MapOf` (tied to the code by the generated
thresholds/leaves and by the white-box layout correspondence, which compares table length, every chain,
the word bits, the counter and the grow/shrink counts after every call).  The theorems below quantify over
**every** hash function, **every** seed oracle (per-table random seeds), **every** presize hint, the grow-only
flag, and call sequences of any length (crossing any number of grow/shrink thresholds, with `Clear`
anywhere); the right-hand sides mention none of them.
Tie to the source text: the steps of M3 are the `doCompute` calls the printed methods of both files make
(`C11_methods_are_doCompute_calls`); for `MapOf`, on buckets with their `meta` words, the printed `appendToBucketOf` is
M3's `place` and, folded over the entries a resize moves, `copyAll`; the in-place stores of `doCompute` are `upd` /
`del`; the shrink trigger is "bucket empty"; and the printed `Load` reads back what they wrote
(`C11_source_append_then_load`, `C11_source_store_then_load`).  The control flow of `doCompute` and `resize` is M3's,
hand-written.
-/
namespace Props.C11
open Spec Model.Table Proofs.TableRefine

variable {K V : Type} [DecidableEq K] [Inhabited V]

def run (var : Variant) (env : Env K) (m : St K V) : List (MOp K V) → St K V × List (MRes K V)
  | [] => (m, [])
  | op :: ops =>
    let r := step var env m op
    let rs := run var env r.1 ops
    (rs.1, r.2 :: rs.2)

def specRun (sp : AMap K V) : List (MOp K V) → AMap K V × List (MOut K V × Nat)
  | [] => (sp, [])
  | op :: ops =>
    let r := specStep sp op
    let rs := specRun r.1 ops
    (rs.1, r.2 :: rs.2)

/-- per-call relation along a run: results equal (Range: equal for some enumeration order of the contents
before the call), user-function invocation counts equal -/
def RunRel (sp : AMap K V) : List (MOp K V) → List (MRes K V) → Prop
  | [], [] => True
  | op :: ops, r :: rs =>
    OutRel sp op r.out (specStep sp op).2.1 ∧ r.fnCalls = (specStep sp op).2.2 ∧ RunRel (specStep sp op).1 ops rs
  | _, _ => False

/-- **C11 (one call)**, both tables -/
theorem C11_step (var : Variant) (hv : GoodVariant var) (env : Env K) (sp : AMap K V) (m : St K V)
    (h : Sim var env sp m) (op : MOp K V) :
    Sim var env (specStep sp op).1 (step var env m op).1 ∧
    OutRel sp op (step var env m op).2.out (specStep sp op).2.1 ∧
    (step var env m op).2.fnCalls = (specStep sp op).2.2 :=
  step_refines var env hv sp m h op

/-- **C11 (every history)** from any related pair of states -/
theorem C11_run (var : Variant) (hv : GoodVariant var) (env : Env K) (ops : List (MOp K V)) :
    ∀ (sp : AMap K V) (m : St K V), Sim var env sp m →
      Sim var env (specRun sp ops).1 (run var env m ops).1 ∧ RunRel sp ops (run var env m ops).2 := by
  induction ops with
  | nil => intro sp m h; exact ⟨h, trivial⟩
  | cons op ops ih =>
    intro sp m h
    obtain ⟨h1, h2, h3⟩ := step_refines var env hv sp m h op
    obtain ⟨i1, i2⟩ := ih _ _ h1
    exact ⟨i1, h2, h3, i2⟩

/-- **C11 for `Map`**: any hash, any seeds, any presize hint (that yields a non-empty table), grow-only or
not, any call sequence: the string-keyed table behaves like the builtin map started empty. -/
theorem C11_Map (env : Env K) (hint : Int) (growOnly : Bool) (ops : List (MOp K V))
    (hlen : 0 < (new (V := V) mapVariant env hint growOnly).tbl.len) :
    RunRel ([] : AMap K V) ops (run mapVariant env (new mapVariant env hint growOnly) ops).2 :=
  (C11_run mapVariant mapVariant_good env ops [] _ (new_sim mapVariant env hint growOnly hlen)).2

/-- **C11 for `MapOf`** -/
theorem C11_MapOf (env : Env K) (hint : Int) (growOnly : Bool) (ops : List (MOp K V))
    (hlen : 0 < (new (V := V) mapOfVariant env hint growOnly).tbl.len) :
    RunRel ([] : AMap K V) ops (run mapOfVariant env (new mapOfVariant env hint growOnly) ops).2 :=
  (C11_run mapOfVariant mapOfVariant_good env ops [] _ (new_sim mapOfVariant env hint growOnly hlen)).2

omit [DecidableEq K] [Inhabited V] in
/-- the default presize (no hint, or any hint ≤ 32·S) always yields the 32-bucket table -/
theorem C11_default_len (var : Variant) (env : Env K) (hint : Int) (growOnly : Bool)
    (h : hint ≤ (Gen.defaultMinMapTableLen * var.S : Nat)) :
    (new (V := V) var env hint growOnly).tbl.len = 32 := by
  simp only [new, newTbl, Tbl.len, List.length_replicate, if_pos h]; rfl

/-- **no entry is lost, duplicated or resurrected by a grow, a shrink or a Clear**: a resize keeps every
binding (grow, shrink) or removes every binding (clear), and re-establishes the representation invariant -/
theorem C11_resize (var : Variant) (hv : GoodVariant var) (env : Env K) (sp : AMap K V) (m : St K V)
    (h : Sim var env sp m) :
    Sim var env sp (resize var env m .grow) ∧ Sim var env sp (resize var env m .shrink) ∧
    Sim var env ([] : AMap K V) (resize var env m .clear) :=
  ⟨resize_grow_sim var env hv sp m h, resize_shrink_sim var env hv sp m h, resize_clear_sim var env sp m h⟩

/-- the retry loop of `doCompute` always terminates within its budget (each retry doubles the table) -/
theorem C11_no_stuck (var : Variant) (hv : GoodVariant var) (env : Env K) (sp : AMap K V) (m : St K V)
    (h : Sim var env sp m) (k : K) (g : Option V → V × Bool) (lie co : Bool) :
    (doCompute var env m k g lie co (fuelFor m)).isSome := by
  obtain ⟨_, hd, _⟩ := doCompute_spec var env hv k g lie co (fuelFor m) sp m h (by unfold fuelFor; omega)
  rw [hd]; rfl

/-! ### Non-vacuity -/

def exEnv : Env Nat := { hash := fun k _ => BitVec.ofNat 64 k, seeds := fun _ => 0 }
/-- a `Map` after 4 colliding inserts: root bucket full, a second bucket chained -/
def exOps : List (MOp Nat Nat) := [.store 0 10, .store 32 11, .store 64 12, .store 96 13, .load 96, .compute 128 (fun _ => (0, true)), .size]

set_option maxRecDepth 4000 in
example : ((run mapVariant exEnv (new mapVariant exEnv 0 false) exOps).1.tbl.chain 0).length = 6 := by decide
set_option maxRecDepth 4000 in
example : ((run mapVariant exEnv (new mapVariant exEnv 0 false) exOps).2.map (·.out)) =
    [.unit, .unit, .unit, .unit, .val 13 true, .val 0 false, .size 4] := by decide

/-- **the sequential table model makes the calls of `doCompute` the methods of both files make** (function argument,
`loadIfExists`, `computeOnly`, result returned or dropped: printed from `map.go` / `mapof.go` on every run by
`go2deep -wrappers`), so `C11_step` / `C11_run` are about those methods -/
theorem C11_methods_are_doCompute_calls {K V : Type} [DecidableEq K] [Inhabited V] (var : Model.Table.Variant)
    (env : Model.Table.Env K) (m : Model.Table.St K V) (k : K) (v : V) (g : Option V → V × Bool) :
    Model.Table.step var env m (.store k v) = Proofs.Wrappers.viaWrapper var env m k g Gen.Deep.Map_Store v 0 ∧
    Model.Table.step var env m (.store k v) = Proofs.Wrappers.viaWrapper var env m k g Gen.Deep.MapOf_Store v 0 ∧
    Model.Table.step var env m (.loadOrStore k v) = Proofs.Wrappers.viaWrapper var env m k g Gen.Deep.Map_LoadOrStore v 0 ∧
    Model.Table.step var env m (.loadOrStore k v) = Proofs.Wrappers.viaWrapper var env m k g Gen.Deep.MapOf_LoadOrStore v 0 ∧
    Model.Table.step var env m (.loadAndStore k v) = Proofs.Wrappers.viaWrapper var env m k g Gen.Deep.Map_LoadAndStore v 0 ∧
    Model.Table.step var env m (.loadAndStore k v) = Proofs.Wrappers.viaWrapper var env m k g Gen.Deep.MapOf_LoadAndStore v 0 ∧
    Model.Table.step var env m (.compute k g) = Proofs.Wrappers.viaWrapper var env m k g Gen.Deep.Map_Compute v 1 ∧
    Model.Table.step var env m (.compute k g) = Proofs.Wrappers.viaWrapper var env m k g Gen.Deep.MapOf_Compute v 1 ∧
    Model.Table.step var env m (.loadAndDelete k) = Proofs.Wrappers.viaWrapper var env m k g Gen.Deep.Map_LoadAndDelete v 0 ∧
    Model.Table.step var env m (.loadAndDelete k) = Proofs.Wrappers.viaWrapper var env m k g Gen.Deep.MapOf_LoadAndDelete v 0 ∧
    Model.Table.step var env m (.delete k) = Proofs.Wrappers.viaWrapper var env m k g Gen.Deep.Map_Delete v 0 ∧
    Model.Table.step var env m (.delete k) = Proofs.Wrappers.viaWrapper var env m k g Gen.Deep.MapOf_Delete v 0 :=
  ⟨rfl, rfl, rfl, rfl, rfl, rfl, rfl, rfl, rfl, rfl, rfl, rfl⟩

/-! ### `appendToBucketOf`, printed from the source: what a resize does with every entry it moves -/

omit [Inhabited V] in
/-- **the text of `appendToBucketOf` is M3's `place`** (`go2deep -table`; `Deep/TInterp.lean`: `execW`, the heap is part
of the state).  For every heap, every non-empty chain of five-slot buckets, every hash byte and entry, and every
sufficient loop budget, the call ends (it is never stuck) in the heap in which that chain is `appendSpec` of the old
one; on the slots that is `place 5` (first free slot of the chain, else a new bucket at its end - where an entry lands
depends on the chain's slots only); and the `meta` words still represent their entries (`RepB`), so the lookup theorems
of C10 apply to the result -/
theorem C11_source_append_is_place (hk : K → BitVec 8) (fuel : Nat) (hf : 6 ≤ fuel) (h : Deep.T.Heap K V) (k : K) (v : V)
    (ci : Nat) (c : List (Model.Words.BucketOf K V)) (hc : h.chains[ci]? = some c) (hne : c ≠ []) (hfuel : c.length ≤ fuel)
    (hrep : ∀ b ∈ c, Model.Words.RepB hk b) :
    Deep.T.callW fuel h Gen.Deep.T_appendToBucketOf [.w8 (hk k), .entry k v, .bucketRef ci 0] =
      some ({ h with chains := h.chains.set ci (Proofs.DeepAppend.appendSpec (hk k) k v c) }, []) ∧
    Model.Words.flat (Proofs.DeepAppend.appendSpec (hk k) k v c) = place 5 k v (Model.Words.flat c) ∧
    (∀ b ∈ Proofs.DeepAppend.appendSpec (hk k) k v c, Model.Words.RepB hk b) :=
  ⟨Proofs.DeepAppend.append_eq_spec fuel hf h (hk k) k v ci c hc hne hfuel (fun b hb => (hrep b hb).1),
   Proofs.DeepAppend.appendSpec_flat (hk k) k v c hne (fun b hb => (hrep b hb).1),
   Proofs.DeepAppend.appendSpec_rep hk k v c hrep⟩

omit [Inhabited V] in
/-- **moving the entries one by one with that function is M3's `copyAll`** (the table a resize builds): for every hash
function, seed, destination table with non-empty representative chains and list of entries, applying `appendSpec` to
the destination chain of each entry in order gives the chains of `copyAll`'s table, again non-empty and representative,
with the same seed and the counter advanced by the number of entries -/
theorem C11_bucketwise_copy_is_model_copy (env : Env K) (es : List (K × V)) (cs : List (List (Model.Words.BucketOf K V)))
    (d : Tbl K V) (hd : d.chains = cs.map Model.Words.flat)
    (hg : Proofs.CopyRep.Good (fun k => Gen.h2 (env.hash k d.seed)) cs) (hpos : 0 < cs.length) :
    let hk := fun k => Gen.h2 (env.hash k d.seed)
    let bidx := fun k => (Gen.h1 (env.hash k d.seed)).toNat % cs.length
    (copyAll mapOfVariant env es d).chains = (Proofs.CopyRep.moveAll hk bidx es cs).map Model.Words.flat ∧
    Proofs.CopyRep.Good hk (Proofs.CopyRep.moveAll hk bidx es cs) ∧ (copyAll mapOfVariant env es d).seed = d.seed ∧
    (copyAll mapOfVariant env es d).size = d.size + es.length :=
  have h := Proofs.CopyRep.moveAll_chains env _ d.seed cs.length hpos _ (fun _ => rfl) es cs d hd rfl rfl hg
  ⟨h.1, h.2, (copyAll_frame mapOfVariant env es d).2⟩

omit [Inhabited V] in
/-- **the shrink trigger reads the layout, not the hash**: after a delete `doCompute` attempts a shrink iff
`newmetaw == defaultMeta`; for a representative bucket whose three unused `meta` bytes still hold their initial value
(kept by every `setByte` on a slot byte) and a hash byte that is never `emptyMetaSlot` (`h2`: `C10_h2_never_empty`),
that is exactly "the bucket holds no entry" - M3's `leftEmpty` for `MapOf` - whatever the hash bytes of the deleted keys
were -/
theorem C11_shrink_trigger_is_bucket_empty (hk : K → BitVec 8) (hne : ∀ k, hk k ≠ Gen.emptyMetaSlot)
    (b : Model.Words.BucketOf K V) (h : Model.Words.RepB hk b) (hu : Proofs.WordsInv.Upper b.metaw) :
    (b.metaw = Gen.defaultMeta ↔ b.entries = [none, none, none, none, none]) ∧
    Proofs.WordsInv.Upper Gen.defaultMeta ∧
    (∀ (x : BitVec 8) (i : Nat), i < 5 → Proofs.WordsInv.Upper (Gen.setByte b.metaw x i)) :=
  ⟨Proofs.WordsInv.meta_default_iff_empty hk hne b h hu, Proofs.WordsInv.upper_default,
   fun x i hi => Proofs.WordsInv.upper_setByte b.metaw x i hi hu⟩

/-- **append, then load, on the printed texts**: run the printed `appendToBucketOf` for `(k, v)` on the chain of `k`'s
root bucket (representative, keys distinct, `k` not yet there), then the printed `MapOf.Load` on the heap that call
leaves behind: `Load k` returns `(v, true)`, and `Load x` for every other key of that root bucket returns what it held
before - whether the entry went into a free slot of an existing bucket or into a fresh overflow bucket -/
theorem C11_source_append_then_load (fuel : Nat) (hf : 8 ≤ fuel) (h : Deep.T.Heap K V) (k : K) (v : V)
    (c : List (Model.Words.BucketOf K V)) (hc : h.chains[(Proofs.DeepLoad.bidxOf h k).toNat]? = some c) (hne : c ≠ [])
    (hfuel : c.length + 1 ≤ fuel) (hrep : ∀ b ∈ c, Model.Words.RepB (Proofs.DeepLoad.hkOf h) b)
    (hnd : (chainKeys (Model.Words.flat c)).Nodup) (habs : lookup k (Model.Words.flat c) = none) :
    ∃ h', Deep.T.callW fuel h Gen.Deep.T_appendToBucketOf
        [.w8 (Proofs.DeepLoad.hkOf h k), .entry k v, .bucketRef (Proofs.DeepLoad.bidxOf h k).toNat 0] = some (h', []) ∧
      Deep.T.call fuel h' Gen.Deep.T_MapOf_Load [.key k] = some [.val v, .bool true] ∧
      ∀ x, Proofs.DeepLoad.bidxOf h x = Proofs.DeepLoad.bidxOf h k → x ≠ k →
        Deep.T.call fuel h' Gen.Deep.T_MapOf_Load [.key x] =
          some (match lookup x (Model.Words.flat c) with
            | some w => [.val w, .bool true]
            | none => [.zeroV, .bool false]) := by
  have hlen : ∀ b ∈ c, b.entries.length = 5 := fun b hb => (hrep b hb).1
  have hlook := (chainMod_place 5 k v (Model.Words.flat c) hnd habs).look
  have hload := Proofs.DeepLoad.load_set_chain fuel hf h k (Proofs.SlotScheme.lt_of_getElem? hc) _
    (Proofs.DeepAppend.appendSpec_ne (Proofs.DeepLoad.hkOf h k) k v c hne)
    (Nat.le_trans (Proofs.DeepAppend.appendSpec_length_le _ _ _ _) hfuel)
    (Proofs.DeepAppend.appendSpec_rep (Proofs.DeepLoad.hkOf h) k v c hrep)
  refine ⟨_, Proofs.DeepAppend.append_eq_spec fuel (by omega) h _ k v _ c hc hne (by omega) hlen, ?_, fun x hx hxk => ?_⟩
  · rw [hload k rfl, Proofs.DeepAppend.appendSpec_flat _ _ _ _ hne hlen, hlook k]
    simp
  · rw [hload x hx, Proofs.DeepAppend.appendSpec_flat _ _ _ _ hne hlen, hlook x, if_neg hxk]
    rfl

omit [Inhabited V] in
/-- **the in-place stores of `MapOf.doCompute` are M3's `upd` and `del`**: replacing the entry pointer of the slot the
search found (the first slot of the chain holding the key; `meta` untouched), resp. `setByte(meta, emptyMetaSlot, idx)`
with a nil pointer there, changes the chain's slots exactly as `upd` / `del` do, and leaves the bucket representative -
whatever bucket and slot of the chain it is -/
theorem C11_inplace_stores_are_model_ops (hk : K → BitVec 8) (c : List (Model.Words.BucketOf K V))
    (hrep : ∀ b ∈ c, Model.Words.RepB hk b) (j i : Nat) (b : Model.Words.BucketOf K V) (hb : c[j]? = some b) (hi : i < 5)
    (k : K) (old v : V) (hs : b.entries[i]? = some (some (k, old)))
    (hfirst : Proofs.StoreSpec.FirstAt k (Model.Words.flat c) (5 * j + i)) :
    (Model.Words.flat (c.set j ⟨b.metaw, b.entries.set i (some (k, v))⟩) = upd k v (Model.Words.flat c) ∧
      Model.Words.RepB hk ⟨b.metaw, b.entries.set i (some (k, v))⟩) ∧
    (Model.Words.flat (c.set j ⟨Gen.setByte b.metaw Gen.emptyMetaSlot i, b.entries.set i none⟩) = del k (Model.Words.flat c) ∧
      Model.Words.RepB hk ⟨Gen.setByte b.metaw Gen.emptyMetaSlot i, b.entries.set i none⟩) :=
  ⟨Proofs.StoreSpec.update_is_upd hk c hrep j i b hb hi k old v hs hfirst,
   Proofs.StoreSpec.delete_is_del hk c hrep j i b hb hi k old hs hfirst⟩

/-- **update / delete, then load, on the printed `Load`**: on the heap that results from the in-place update (resp. the
delete) of the slot the search found, the printed `MapOf.Load` returns the new value for that key (resp. reports
absence), and every other key of that root bucket reads exactly as before -/
theorem C11_source_store_then_load (fuel : Nat) (hf : 8 ≤ fuel) (h : Deep.T.Heap K V) (k : K)
    (c : List (Model.Words.BucketOf K V)) (hc : h.chains[(Proofs.DeepLoad.bidxOf h k).toNat]? = some c) (hne : c ≠ [])
    (hfuel : c.length ≤ fuel) (hrep : ∀ b ∈ c, Model.Words.RepB (Proofs.DeepLoad.hkOf h) b)
    (hnd : (chainKeys (Model.Words.flat c)).Nodup) (j i : Nat) (b : Model.Words.BucketOf K V) (hb : c[j]? = some b)
    (hi : i < 5) (old v : V) (hs : b.entries[i]? = some (some (k, old)))
    (hfirst : Proofs.StoreSpec.FirstAt k (Model.Words.flat c) (5 * j + i)) :
    let hu : Deep.T.Heap K V :=
      { h with chains := (h.chains.set (Proofs.DeepLoad.bidxOf h k).toNat (c.set j ⟨b.metaw, b.entries.set i (some (k, v))⟩)) }
    let hd : Deep.T.Heap K V :=
      { h with chains := (h.chains.set (Proofs.DeepLoad.bidxOf h k).toNat
          (c.set j ⟨Gen.setByte b.metaw Gen.emptyMetaSlot i, b.entries.set i none⟩)) }
    Deep.T.call fuel hu Gen.Deep.T_MapOf_Load [.key k] = some [.val v, .bool true] ∧
    Deep.T.call fuel hd Gen.Deep.T_MapOf_Load [.key k] = some [.zeroV, .bool false] ∧
    ∀ x, Proofs.DeepLoad.bidxOf h x = Proofs.DeepLoad.bidxOf h k → x ≠ k →
      Deep.T.call fuel hu Gen.Deep.T_MapOf_Load [.key x] = Deep.T.call fuel h Gen.Deep.T_MapOf_Load [.key x] ∧
      Deep.T.call fuel hd Gen.Deep.T_MapOf_Load [.key x] = Deep.T.call fuel h Gen.Deep.T_MapOf_Load [.key x] := by
  intro hu hd
  have hU := Proofs.StoreSpec.update_is_upd (Proofs.DeepLoad.hkOf h) c hrep j i b hb hi k old v hs hfirst
  have hD := Proofs.StoreSpec.delete_is_del (Proofs.DeepLoad.hkOf h) c hrep j i b hb hi k old hs hfirst
  have hold : lookup k (Model.Words.flat c) = some old :=
    (mem_occupied_iff hnd k old).1 (List.mem_filterMap.2 ⟨_, List.mem_of_getElem?
      (by rw [Proofs.StoreSpec.flat_get c j i b (fun b hb => (hrep b hb).1) hb hi, hs]), rfl⟩)
  have hlu := (chainMod_upd k v old (Model.Words.flat c) hnd hold).look
  have hld := (chainMod_del k (Model.Words.flat c) hnd).look
  have key := fun b' hb' =>
    Proofs.DeepLoad.load_set_bucket fuel hf h k c hc hfuel hrep j (Proofs.SlotScheme.lt_of_getElem? hb) b' hb'
  have orig := fun x (hx : Proofs.DeepLoad.bidxOf h x = Proofs.DeepLoad.bidxOf h k) =>
    Proofs.DeepLoad.load_eq_lookup fuel hf h x c (by rw [hx]; exact hc) hne hfuel hrep
  refine ⟨?_, ?_, fun x hx hxk => ⟨?_, ?_⟩⟩
  · rw [key _ hU.2 k rfl, hU.1, hlu k]
    simp
  · rw [key _ hD.2 k rfl, hD.1, hld k]
    simp
  · rw [key _ hU.2 x hx, hU.1, hlu x, orig x hx, if_neg hxk]
  · rw [key _ hD.2 x hx, hD.1, hld x, orig x hx, if_neg hxk]

/-! Non-vacuity: a free slot in the root bucket is filled; a full one-bucket chain gets a new bucket. -/
def exFullB : Model.Words.BucketOf Nat Nat := ⟨0#64, [some (1, 1), some (2, 2), some (3, 3), some (4, 4), some (5, 5)]⟩
def exAppHeap : Deep.T.Heap Nat Nat :=
  { chains := [[⟨Gen.defaultMeta, [none, none, none, none, none]⟩], [exFullB]], seed := 0#64, hasher := fun _ _ => 0#64 }

example : (Deep.T.callW 6 exAppHeap Gen.Deep.T_appendToBucketOf [.w8 3#8, .entry 7 70, .bucketRef 0 0]).map (·.1.chains) =
    some [[⟨Gen.setByte Gen.defaultMeta 3#8 0, [some (7, 70), none, none, none, none]⟩], [exFullB]] := by rfl
example : (Deep.T.callW 6 exAppHeap Gen.Deep.T_appendToBucketOf [.w8 3#8, .entry 7 70, .bucketRef 1 0]).map (·.1.chains) =
    some [[⟨Gen.defaultMeta, [none, none, none, none, none]⟩],
          [exFullB, ⟨Gen.setByte Gen.defaultMeta 3#8 0, [some (7, 70), none, none, none, none]⟩]] := by rfl

end Props.C11
