import CacheVerif.Proofs.CacheRefine
import CacheVerif.Model.CacheOf
import CacheVerif.Proofs.DeepSource
/-!
# C01 — cache entries are visible exactly until they expire, are replaced or are removed

`Spec.TTL` is the reference semantics; `Model.Cache` / `Model.CacheOf` are the models of `xsync_map.go` /
`xsync_mapof.go` (tied to the code by the generated leaves and the sequential correspondence).  All statements
quantify over every key and value type with decidable equality, every call sequence of any length (including
clock advances `tick δ`, δ ≥ 0), every TTL argument (any `Int`), every pure user function.
-/
namespace Props.C01
open Spec Model Proofs.CacheRefine

variable {K V : Type} [DecidableEq K] [Inhabited V]

def RunRel (a : TTL.St K V) : List (Op K V) → List (Res K V) → Prop
  | [], [] => True
  | op :: ops, r :: rs =>
    OutRel a.live op r.out (TTL.step a op).2.1 ∧ r.fn = (TTL.step a op).2.2 ∧ RunRel (TTL.step a op).1 ops rs
  | _, _ => False

/-- **C01 (one call).** From related states, every API call and every clock advance keeps the states
related, reports what the TTL semantics reports (value, flags, instants; `Range`/`Items` up to the
unspecified enumeration order) and invokes the user functions exactly as the TTL semantics does. -/
theorem C01_step (s : Cache.St K V) (a : TTL.St K V) (h : Sim s a) (op : Op K V) :
    Sim (Cache.step s op).1 (TTL.step a op).1 ∧
    OutRel a.live op (Cache.step s op).2.out (TTL.step a op).2.1 ∧
    (Cache.step s op).2.fn = (TTL.step a op).2.2 :=
  step_sim h op

/-- **C01 (every history).** Any finite sequence of calls and clock advances. -/
theorem C01_run (ops : List (Op K V)) : ∀ (s : Cache.St K V) (a : TTL.St K V), Sim s a →
    Sim (Cache.run s ops).1 (TTL.run a ops).1 ∧ RunRel a ops (Cache.run s ops).2 := by
  induction ops with
  | nil => intro s a h; exact ⟨h, trivial⟩
  | cons op ops ih =>
    intro s a h
    obtain ⟨h1, h2, h3⟩ := step_sim h op
    obtain ⟨i1, i2⟩ := ih _ _ h1
    exact ⟨i1, h2, h3, i2⟩

/-- every cache built by a public constructor at a non-negative clock starts related to the empty TTL map
whose default is the constructor's (a default below 1 ns meaning "never") -/
theorem C01_init (c : Cache.Ctor) (now : Int) (h0 : 0 ≤ now) :
    Sim (K := K) (V := V) (Cache.construct c now).1
      (TTL.construct (match c with | .newOpts d _ _ _ => d | .newDefault d _ _ => some d | .newOptsOver _ d _ _ _ => some d)
        (match c with | .newOpts _ _ cb _ => cb | .newDefault _ _ cb => cb | .newOptsOver _ _ _ cb _ => cb) now) := by
  rw [construct_eq_newXsyncMap]
  cases c <;> simp only <;> rw [newXsyncMap_fst _ _ now rfl]
  case newOpts d _ cb _ => cases d <;> exact sim_init _ cb now h0
  all_goals exact sim_init _ _ now h0

/-- the generic twin takes the same steps (so every statement above holds for `CacheOf` too) -/
theorem C01_twin (s : Cache.St K V) (op : Op K V) : CacheOf.step s op = Cache.step s op :=
  Proofs.Twin.step_eq s op

/-- **An expired value is never returned** (whether or not cleanup has run): a successful `Get` returns
the value of a physically present item whose expiration instant has not passed. -/
theorem C01_never_expired (s : Cache.St K V) (a : TTL.St K V) (h : Sim s a) (k : K) (v : V)
    (hr : (Cache.step s (.get k)).2.out = .val v true) :
    ∃ i, s.items.get k = some i ∧ i.v = v ∧ TTL.expired i.e s.now = false := by
  obtain ⟨_, h2, _⟩ := step_sim h (.get k)
  simp only [OutRel, logical, TTL.step, hr] at h2
  cases hl : a.live.get k with
  | none => rw [hl] at h2; cases h2
  | some i =>
    rw [hl] at h2
    injection h2 with hv
    exact ⟨i, (h.live_some hl).1, hv.symm, (h.live_some hl).2⟩

/-- **An unexpired value is never dropped by cleanup**: `DeleteExpired`, and any read (with its lazy
deletion), leave the logical content untouched. -/
theorem C01_no_early_drop (s : Cache.St K V) (a : TTL.St K V) (h : Sim s a) (k : K) :
    Sim (Cache.step s .deleteExpired).1 a ∧ Sim (Cache.step s (.get k)).1 a ∧
    Sim (Cache.step s (.getWithTTL k)).1 a ∧ Sim (Cache.step s (.getWithExpiration k)).1 a := by
  -- the three reads are the unexported `get`
  obtain ⟨s', hg, h1⟩ := get_spec h k
  refine ⟨(step_sim h .deleteExpired).1, ?_, ?_, ?_⟩ <;> simp only [Cache.step, hg] <;> cases a.live.get k <;> exact h1

/-- boundary: at the expiration instant itself the entry is still there, one tick later it is gone -/
theorem C01_boundary (e : Int) (he : 0 < e) : TTL.expired e e = false ∧ TTL.expired e (e + 1) = true := by
  simp [TTL.expired]; omega

/-! ### The same statements about the source text itself

`Gen.Deep.xsyncMap_*` / `Gen.Deep.xsyncMapOf_*` are printed from the working tree on every run (`tools/go2deep`);
`Deep.deepRun` runs them through the interpreter of the Go subset (`Deep.Interp`), and by `DeepCache.deep_run` /
`DeepCacheOf.deep_run` that is exactly the hand-written model's run.  Trusted: the printer and the interpreter, in
place of a hand transcription. -/

/-- **C01 for the text of `xsync_map.go`.** -/
theorem C01_source_run (ops : List (Op K V)) (s : CSt K V) (a : TTL.St K V) (h : Sim s a) :
    ∃ s' rs, Deep.deepRun Deep.twinMap s ops = some (s', rs) ∧ Sim s' (TTL.run a ops).1 ∧ RunRel a ops rs :=
  ⟨_, _, DeepCache.deep_run s ops, C01_run ops s a h⟩

/-- **C01 for the text of `xsync_mapof.go`.** -/
theorem C01_source_run_of (ops : List (Op K V)) (s : CSt K V) (a : TTL.St K V) (h : Sim s a) :
    ∃ s' rs, Deep.deepRun Deep.twinMapOf s ops = some (s', rs) ∧ Sim s' (TTL.run a ops).1 ∧ RunRel a ops rs :=
  ⟨_, _, DeepSource.run s ops _ (.inr rfl), C01_run ops s a h⟩

/-- no call of either file panics, fails a type assertion, calls a nil function or runs out of fuel, whatever the
state and the arguments (the interpreter returns `none` in all those cases) -/
theorem C01_source_total (s : CSt K V) (op : Op K V) :
    (Deep.deepStep Deep.twinMap s op).isSome ∧ (Deep.deepStep Deep.twinMapOf s op).isSome := by
  rw [DeepCache.deep_step, DeepCacheOf.deep_step]; exact ⟨rfl, rfl⟩

/-! ### Non-vacuity: a concrete state with a live, an expired-uncleaned and a never-expiring key -/

def exS : Cache.St String Nat := { items := [("live", ⟨1, 200⟩), ("dead", ⟨2, 50⟩), ("forever", ⟨3, 0⟩)], now := 100, dflt := 10, cb := some 1 }

example : Sim exS (abs exS) := sim_abs exS ⟨by simp [exS, AMap.WF, AMap.keys], by simp [exS], by decide⟩
example : (Cache.step exS (.get "dead")).2.out = .val 0 false := by decide
example : (Cache.step exS (.getAndDelete "dead")).2.out = .val 0 false := by decide
example : (Cache.step exS (.getAndDelete "dead")).2.cbs = [(1, "dead", 2)] := by decide
example : (Cache.step exS (.get "live")).2.out = .val 1 true := by decide
example : (Cache.step exS .items).2.out = .items [("live", 1), ("forever", 3)] := by decide
example : (Cache.step (Cache.step exS (.tick 101)).1 (.get "live")).2.out = .val 0 false := by decide
/-- the interpreter really runs the generated syntax (not vacuous): expired-uncleaned entry through `GetAndDelete` -/
example : ((Deep.deepStep Deep.twinMap exS (.getAndDelete "dead")).map fun r => (r.2.out, r.2.cbs, r.1.items.size)) =
    some (.val 0 false, [(1, "dead", 2)], 2) := by rw [DeepCache.deep_step]; decide
example : ((Deep.deepStep Deep.twinMapOf exS (.getOrSet "dead" 9 5)).map fun r => (r.2.out, r.1.items.get "dead")) =
    some (.val 9 false, some ⟨9, 105⟩) := by rw [DeepCacheOf.deep_step]; decide

end Props.C01
