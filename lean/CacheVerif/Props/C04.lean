import CacheVerif.Proofs.Wrappers
import CacheVerif.Props.C03
import CacheVerif.Proofs.SlotMapOfHindsight
/-!
# C04 — `MapOf` (generic keys) is linearizable, also across grow, shrink and Clear

As C03, for the generic table: slot level = meta byte + immutable entry pointer (`Model.SlotMapOf`); the protocol
level is the same model M4a (`mapof.go` has the same resize / lock protocol as `map.go`; the trace correspondence
runs on both); sequential level = M3 with the MapOf variant, for **every** hash function including fully
colliding ones (`Props/C10`, `Props/C11`).
-/
namespace Props.C04
open Model.SlotMapOf Proofs.SlotMapOfHindsight

variable {K V : Type} [DecidableEq K] (h2 : K → Nat)

/-- **the lock-free `Load` is atomic** for any `h2` (any hash, also one under which all keys collide): its result was
the chain's logical content for its key at some instant inside the call — a reader never observes a key paired
with another key's value -/
theorem C04_reader_hindsight (k0 : K) (pre mid : List (Act K V)) (t : Tid) (k : K) (s : St K V)
    (hns : ∀ a ∈ mid, ∀ k', a ≠ Act.start t k')
    (hrun : run h2 (init k0) (pre ++ [Act.start t k] ++ mid) = some s)
    (hdone : (s.r t).pc = .done) :
    ∃ j, j ≤ mid.length ∧ ∃ s', run h2 (init k0) (pre ++ [Act.start t k] ++ mid.take j) = some s' ∧
      content h2 s'.g k = (s.r t).result :=
  reader_hindsight h2 k0 pre mid t k s hns hrun hdone

/-- the slot representation invariant holds in every reachable chain state -/
theorem C04_slot_invariant (k0 : K) (as : List (Act K V)) (s : St K V) (h : run h2 (init k0) as = some s) :
    Proofs.SlotMapOfInv.Inv h2 s.g :=
  Proofs.SlotMapOfInv.inv_reachable h2 k0 as s h

/-- a reader running alone finishes within `(S+3)·max(chain length, 1)` of its own steps, from any state, and
returns the current logical content -/
theorem C04_solo_reader (g : G K V) (k : K) (hI : Proofs.SlotMapOfInv.Inv h2 g) :
    ∃ n, n ≤ (S + 3) * max g.buckets.length 1 ∧
      (soloReader h2 g { key := k, pc := .rdMeta 0, result := none } n).pc = .done ∧
      (soloReader h2 g { key := k, pc := .rdMeta 0, result := none } n).result = content h2 g k :=
  solo_reader h2 g k hI

theorem C04_resize_preserves_content {K V : Type} [DecidableEq K] (p : Model.Proto.Params K) (hmin : 0 < p.minLen)
    (s : Model.Proto.St K V) (h : Model.Proto.Reach p s) (t : Model.Proto.Tid) (c : Model.Proto.Choice K V)
    (g' : Model.Proto.G K V) (l' : Model.Proto.L K V)
    (hpc : (s.l t).pc = .rzPublish) (hh : (s.l t).hint ≠ .clear) (hs : Model.Proto.tstep p t s.g (s.l t) c = some (g', l')) :
    ∀ k, Proofs.ProtoData.absGet g' k = Proofs.ProtoData.absGet s.g k :=
  C03.C03_resize_preserves_content p hmin s h t c g' l' hpc hh hs

/-! M4a is the common protocol model of `map.go` and `mapof.go` (the bucket function `p.bkt` is arbitrary = any
hasher, also a constant one): the theorems of `Props/C03.lean` about it are the theorems of C04 too.  They are
re-exported (`C04_resize_preserves_content` above, ten below) under C04 names so that C04's axiom audit covers them. -/
section lin
variable {K V : Type} [DecidableEq K] (p : Model.Proto.Params K)

theorem C04_writer_linearizable : type_of% (@C03.C03_C04_writer_linearizable K V _ p) := @C03.C03_C04_writer_linearizable K V _ p
theorem C04_load_hindsight : type_of% (@C03.C03_C04_load_hindsight K V _ p) := @C03.C03_C04_load_hindsight K V _ p
theorem C04_log_legal_state : type_of% (@C03.C03_C04_log_legal_state K V _ p) := @C03.C03_C04_log_legal_state K V _ p
theorem C04_writer_once : type_of% (@C03.C03_C04_writer_once K V _ p) := @C03.C03_C04_writer_once K V _ p
theorem C04_reader_point : type_of% (@C03.C03_C04_reader_point K V _ p) := @C03.C03_C04_reader_point K V _ p
theorem C04_fastpath_point : type_of% (@C03.C03_C04_fastpath_point K V _ p) := @C03.C03_C04_fastpath_point K V _ p
theorem C04_content_changes_only_at_commit_or_clear : type_of% (@C03.C03_content_changes_only_at_commit_or_clear K V _ p) := @C03.C03_content_changes_only_at_commit_or_clear K V _ p
theorem C04_clear_empties : type_of% (@C03.C03_clear_empties K V _ p) := @C03.C03_clear_empties K V _ p
theorem C04_clear_takes_effect : type_of% (@C03.C03_C04_clear_takes_effect K V _ p) := @C03.C03_C04_clear_takes_effect K V _ p
theorem C04_read_any_instant : type_of% (@C03.C03_C04_read_any_instant K V _ p) := @C03.C03_C04_read_any_instant K V _ p

end lin

/-- **the writing methods of `MapOf`, as printed from `internal/xsync/mapof.go` on every run, are the builtin-map methods
of their names** (see `C03_methods_are_spec`) -/
theorem C04_methods_are_spec {K V : Type} [DecidableEq K] [Inhabited V] (m : Spec.AMap K V) (k : K) (v : V) (g : Option V → V × Bool) :
    ((Proofs.Wrappers.viaSpec m k g Gen.Deep.MapOf_Store v).1 = (Spec.AMap.store m k v).get k) ∧
    ((Proofs.Wrappers.viaSpec m k g Gen.Deep.MapOf_LoadOrStore v).1 = (Spec.AMap.loadOrStore m k v).1.get k ∧
      (Proofs.Wrappers.viaSpec m k g Gen.Deep.MapOf_LoadOrStore v).2 = (Spec.AMap.loadOrStore m k v).2) ∧
    ((Proofs.Wrappers.viaSpec m k g Gen.Deep.MapOf_LoadAndStore v).1 = (Spec.AMap.loadAndStore m k v).1.get k ∧
      (Proofs.Wrappers.viaSpec m k g Gen.Deep.MapOf_LoadAndStore v).2 = (Spec.AMap.loadAndStore m k v).2) ∧
    ((Proofs.Wrappers.viaSpec m k g Gen.Deep.MapOf_LoadOrCompute v).1 = (Spec.AMap.loadOrStore m k v).1.get k ∧
      (Proofs.Wrappers.viaSpec m k g Gen.Deep.MapOf_LoadOrCompute v).2 = (Spec.AMap.loadOrStore m k v).2) ∧
    ((Proofs.Wrappers.viaSpec m k g Gen.Deep.MapOf_Compute v).1 = (Spec.AMap.compute m k g).1.get k ∧
      (Proofs.Wrappers.viaSpec m k g Gen.Deep.MapOf_Compute v).2 = (Spec.AMap.compute m k g).2) ∧
    ((Proofs.Wrappers.viaSpec m k g Gen.Deep.MapOf_LoadAndDelete v).1 = (Spec.AMap.loadAndDelete m k).1.get k ∧
      (Proofs.Wrappers.viaSpec m k g Gen.Deep.MapOf_LoadAndDelete v).2 = (Spec.AMap.loadAndDelete m k).2) ∧
    ((Proofs.Wrappers.viaSpec m k g Gen.Deep.MapOf_Delete v).1 = (Spec.AMap.loadAndDelete m k).1.get k) := by
  -- the wrappers of the two files are equal
  obtain ⟨h1, h2, h3, h4, h5, h6, h7⟩ := Proofs.Wrappers.twins
  rw [← h1, ← h2, ← h3, ← h4, ← h5, ← h6, ← h7]
  exact C03.C03_methods_are_spec m k v g

end Props.C04
