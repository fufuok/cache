import CacheVerif.Proofs.ProtoClear
import CacheVerif.Proofs.ProtoCompose
import CacheVerif.Proofs.Wrappers
import CacheVerif.Proofs.ProtoHW
import CacheVerif.Spec.Linearizability
import CacheVerif.Proofs.SlotMapHindsight
/-!
# C03 — `Map` (string keys) is linearizable, also across grow, shrink and Clear

All schedules, any number of goroutines:
* **slot level (M4b, `Model.SlotMap`)**: the lock-free three-read atomic snapshot of `Load` returns the logical
  content of its key at some instant inside the call, whatever legal micro-stores the lock holder interleaves
  (`C03_reader_hindsight`): never a value stored under another key, never a mix of two writes; every writer micro-step
  keeps the slot representation invariant (`C03_slot_invariant`);
* **protocol level (M4a, `Model.Proto`; bucket locks, resize flag and wake-ups are `Props/C13`)**: a grow/shrink
  publishes a table with exactly the same bindings; the abstract content changes only at a writer's commit on the
  current table and at Clear's publish;
* **linearizability of M4a**, any layout: every completed writing call has a linearization step inside the call - its
  own commit or, if a `Clear` retired its table after it had passed its re-checks, the publish step of that `Clear`,
  which helps it (`C03_C04_writer_linearizable`); every lookup returns the abstract binding of a state visited during
  the call (`C03_C04_load_hindsight`); a completed `Clear` empties the map inside its interval
  (`C03_C04_clear_takes_effect`);
* **one linearization log per run** (`C03_C04_log_legal_state`, `C03_C04_writer_once`, `C03_C04_reader_point`,
  `C03_C04_fastpath_point`): Herlihy–Wing linearizability of the whole history in linearization-point form.  The bridge
  to the permutation wording is the generic `C03_C04_points_give_hw_witness`; its instantiation for M4a's event lists
  (reading the call records off a run) is not written out;
* **sequential level (M3)**: `Map` refines the builtin map for every hash/seed/hint/history (`Props/C11`).
Every protocol-level trace of the real code under the cooperative scheduler is a run of M4a (trace
correspondence), and every explored history of the real `Map` is judged by the Lean linearizability checker.
**Partial**: M4a's chain read is one atomic step, justified by the M4b hindsight theorems and
`C03_C04_read_any_instant`; that the two models' chains are the same is not a theorem.
-/
namespace Props.C03
open Model.SlotMap Proofs.SlotMapHindsight

variable {K V : Type} [DecidableEq K] (top : K → Nat)

/-- **the lock-free `Load` is atomic**: its result was the chain's logical content for its key at some instant
between the start of the lookup and its end — for every interleaving with the lock holder's micro-stores
(insert: word, value, key; delete: word, value, key; update: value; append), slot reuse included -/
theorem C03_reader_hindsight (k0 : K) (pre mid : List (Act K V)) (t : Tid) (k : K) (s : St K V)
    (hns : ∀ a ∈ mid, ∀ k', a ≠ Act.start t k')
    (hrun : run top (init k0) (pre ++ [Act.start t k] ++ mid) = some s)
    (hdone : (s.r t).pc = .done) :
    ∃ j, j ≤ mid.length ∧ ∃ s', run top (init k0) (pre ++ [Act.start t k] ++ mid.take j) = some s' ∧
      content top s'.g k = (s.r t).result :=
  reader_hindsight top k0 pre mid t k s hns hrun hdone

/-- the slot representation invariant (unique value pointers, one slot per key, exact partial states of the slot
under update) holds in every reachable chain state -/
theorem C03_slot_invariant (k0 : K) (as : List (Act K V)) (s : St K V) (h : run top (init k0) as = some s) :
    RI top s.g :=
  ri_run top as _ s (ri_init top k0) h

/-- a reader running alone (writer stalled anywhere, even in the middle of its micro-stores) finishes within
`(3·S+2)·(chain length+1)` of its own steps and returns the current logical content -/
theorem C03_solo_reader (g : G K V) (k : K) (ri : RI top g) :
    ∃ n, n ≤ (3 * S + 2) * (g.buckets.length + 1) ∧
      (soloReader top g { key := k, pc := .rdWord 0, result := none } n).pc = .done ∧
      (soloReader top g { key := k, pc := .rdWord 0, result := none } n).result = content top g k :=
  solo_reader top g k ri

/-! ### protocol level (M4a): what a resize and a commit do to the abstract content -/
section proto
open Model.Proto Proofs.ProtoData Proofs.ProtoLin
variable {K V : Type} [DecidableEq K] (p : Params K)

/-- **no entry is lost, duplicated or resurrected by a concurrent grow or shrink**: publishing the new table does
not change what lookups see — for every schedule, with writers racing the bucket-by-bucket copy -/
theorem C03_resize_preserves_content (hmin : 0 < p.minLen) (s : Model.Proto.St K V) (h : Reach p s) (t : Model.Proto.Tid)
    (c : Choice K V) (g' : Model.Proto.G K V) (l' : L K V)
    (hpc : (s.l t).pc = .rzPublish) (hh : (s.l t).hint ≠ .clear) (hs : tstep p t s.g (s.l t) c = some (g', l')) :
    ∀ k, absGet g' k = absGet s.g k :=
  publish_preserves_abs p hmin s h t c g' l' hpc hh hs

/-- **the content changes only at a writer's commit on the current table, or at Clear's publish** (no other step of
any thread — copy, retry, wait, Range, a commit into a retired table — is visible to lookups) -/
theorem C03_content_changes_only_at_commit_or_clear (hmin : 0 < p.minLen) (s : Model.Proto.St K V) (h : Reach p s)
    (t : Model.Proto.Tid) (c : Choice K V) (g' : Model.Proto.G K V) (l' : L K V)
    (hs : tstep p t s.g (s.l t) c = some (g', l')) (hne : ∃ k, absGet g' k ≠ absGet s.g k) :
    ((s.l t).pc = .dcCommit ∧ (s.l t).tbl = s.g.cur) ∨ ((s.l t).pc = .rzPublish ∧ (s.l t).hint = .clear) :=
  abs_changes_only_at_commit_or_clear p hmin s h t c g' l' hs hne

/-- a commit touches only the key of its call (no cross-key effect) -/
theorem C03_commit_changes_only_its_key (t : Model.Proto.Tid) (g : Model.Proto.G K V) (l : L K V) (c : Choice K V)
    (g' : Model.Proto.G K V) (l' : L K V) (hpc : l.pc = .dcCommit) (hs : tstep p t g l c = some (g', l')) :
    ∀ k', some k' ≠ opKey l → absGet g' k' = absGet g k' :=
  commit_changes_only_key hpc hs

/-- **once Clear's publish step has happened nothing stored before remains** -/
theorem C03_clear_empties (hmin : 0 < p.minLen) (s : Model.Proto.St K V) (h : Reach p s) (t : Model.Proto.Tid)
    (c : Choice K V) (g' : Model.Proto.G K V) (l' : L K V)
    (hpc : (s.l t).pc = .rzPublish) (hh : (s.l t).hint = .clear) (hs : tstep p t s.g (s.l t) c = some (g', l')) :
    ∀ k, absGet g' k = none :=
  clear_publish_empties p hmin s h t c g' l' hpc hh hs

/-- while a grow/shrink copies, no writer that is past its re-checks holds a bucket that was already copied -/
theorem C03_no_writer_in_copied_bucket (hmin : 0 < p.minLen) (s : Model.Proto.St K V) (h : Reach p s)
    (r u : Model.Proto.Tid) (c : Nat) (hc : copyC (s.l r) = some c) (hp : pastChk (s.l u).pc = true)
    (ht : (s.l u).tbl = (s.l r).rtbl) : c ≤ (s.l u).bi :=
  (dinv_reach hmin h).pair r u c hc hp ht

/-- **linearizability of every writing call** (`Store`, `LoadOrStore`, `LoadAndStore`, `LoadOrCompute`, `Compute`,
`LoadAndDelete`, `Delete` = `doCompute k f loadIfExists computeOnly`), for every schedule: a call that starts where
`mid` begins and has returned `(a, b)` where it ends has a step inside `mid` at which it takes effect atomically
according to the builtin-map semantics `specDc`: (1) its own commit / lock-protected hit on the current table; or (2) a `Clear`
publish by another thread that retired its table after it had passed its re-checks — it is linearized immediately
before that `Clear`; or (3) the lock-free fast-path hit, whose value is a legal lookup answer. -/
theorem C03_C04_writer_linearizable (hmin : 0 < p.minLen) (pre mid : List (Model.Proto.Tid × Choice K V))
    (s0 s' : Model.Proto.St K V) (h0 : Model.Proto.run p (Model.Proto.init p) pre = some s0)
    (h1 : Model.Proto.run p s0 mid = some s') (t : Model.Proto.Tid)
    (k : K) (f : Option V → V × Bool) (lie co : Bool) (a : Option V) (b : Bool)
    (hstart : (s0.l t).pc = .dcFast ∨ (s0.l t).pc = .dcLoadTable)
    (hop : (s'.l t).op = some (.dc k f lie co)) (hret : (s'.l t).pc = .ret)
    (hres : (s'.l t).result = some (.val a b)) :
    (∃ e ∈ events p s0 mid, e.tid = t ∧ ((e.pre.l t).pc = .dcCommit ∨ (e.pre.l t).pc = .dcScan) ∧
        (e.pre.l t).tbl = e.pre.g.cur ∧ (e.pre.l t).op = some (.dc k f lie co) ∧
        absGet e.post.g k = (specDc f lie co (absGet e.pre.g k)).1 ∧
        (∀ k', k' ≠ k → absGet e.post.g k' = absGet e.pre.g k') ∧
        a = (specDc f lie co (absGet e.pre.g k)).2.1 ∧ b = (specDc f lie co (absGet e.pre.g k)).2.2) ∨
    (∃ e ∈ events p s0 mid, e.tid ≠ t ∧ HelpAt e t k f lie co ∧ (∀ k', absGet e.post.g k' = none) ∧
        a = (specDc f lie co (absGet e.pre.g k)).2.1 ∧ b = (specDc f lie co (absGet e.pre.g k)).2.2) ∨
    (lie = true ∧ ∃ x, a = some x ∧ b = (!co) ∧
      ((∃ st ∈ trace p s0 mid, absGet st.g k = some x) ∨
       (∃ e ∈ events p s0 mid, ∃ u f' lie' co', HelpAt e u k f' lie' co' ∧
          some x = (specDc f' lie' co' (absGet e.pre.g k)).1))) :=
  writer_linearizable p hmin pre mid s0 s' h0 h1 t k f lie co a b hstart hop hret hres

/-- **linearizability of `Load`** (hindsight across table generations): the value a lookup returns was the abstract
binding of its key in a state visited during the call, or the binding installed by a writer that a `Clear` issued
during the call helped (the virtual instant between that writer's linearization and the `Clear`) -/
theorem C03_C04_load_hindsight (hmin : 0 < p.minLen) (pre mid : List (Model.Proto.Tid × Choice K V))
    (s0 s' : Model.Proto.St K V) (h0 : Model.Proto.run p (Model.Proto.init p) pre = some s0)
    (h1 : Model.Proto.run p s0 mid = some s') (t : Model.Proto.Tid) (k : K) (v : Option V) (b : Bool)
    (hstart : (s0.l t).pc = .ldTable)
    (hop : (s'.l t).op = some (.load k)) (hret : (s'.l t).pc = .ret) (hres : (s'.l t).result = some (.val v b)) :
    (∃ g ∈ (states p (pre ++ mid)).drop pre.length, absGet g k = v) ∨
    (∃ e ∈ events p s0 mid, ∃ u f lie co, HelpAt e u k f lie co ∧ v = (specDc f lie co (absGet e.pre.g k)).1) :=
  states_drop mid h0 ▸ (load_hindsight p hmin pre mid s0 s' h0 h1 t k v b (by rw [hstart]; simp) hop hret hres).imp_left
    fun ⟨x, hx, h⟩ => ⟨x.g, List.mem_map_of_mem hx, h⟩

/-- the result of a call, once fixed at its linearization point, is what the call returns -/
theorem C03_C04_result_stable (s : Model.Proto.St K V) (h : Reach p s) (t : Model.Proto.Tid)
    (sched : List (Model.Proto.Tid × Choice K V)) (s' : Model.Proto.St K V)
    (hf : fixedPc (s.l t) ∨ (s.l t).pc = .ret) (hr : Model.Proto.run p s sched = some s')
    (hn : NoRet t (events p s sched)) :
    (s'.l t).result = (s.l t).result ∧ (s'.l t).op = (s.l t).op :=
  (result_stable p s s' h t hf sched hr hn).2

/-- `specDc` is the builtin map's `Compute` (and, with the flags of the other calls, `LoadOrStore`, `LoadAndStore`,
`LoadAndDelete`): new binding, returned value and flag agree with `Spec.AMap` -/
theorem specDc_is_AMap_compute [Inhabited V] (m : Spec.AMap K V) (k : K) (f : Option V → V × Bool) :
    ((Spec.AMap.compute m k f).1.get k = (specDc f false true (m.get k)).1) ∧
    ((Spec.AMap.compute m k f).2.2 = (specDc f false true (m.get k)).2.2) ∧
    ((Spec.AMap.compute m k f).2.1 = ((specDc f false true (m.get k)).2.1).getD default) := by
  have h := Proofs.Wrappers.compute_spec m k default f Gen.Deep.Map_Compute (Or.inl rfl)
  exact ⟨h.1.symm, (congrArg Prod.snd h.2.1).symm, (congrArg Prod.fst h.2.1).symm⟩

/-- **the writing methods of `Map`, as printed from `internal/xsync/map.go` on every run, are the builtin-map methods of
their names**: with `doCompute` meaning `specDc` (what a commit of M4a implements), the function and the two flags each
method passes give its `Spec.AMap` meaning - new binding of the key, returned value, returned flag -/
theorem C03_methods_are_spec [Inhabited V] (m : Spec.AMap K V) (k : K) (v : V) (g : Option V → V × Bool) :
    ((Proofs.Wrappers.viaSpec m k g Gen.Deep.Map_Store v).1 = (Spec.AMap.store m k v).get k) ∧
    ((Proofs.Wrappers.viaSpec m k g Gen.Deep.Map_LoadOrStore v).1 = (Spec.AMap.loadOrStore m k v).1.get k ∧
      (Proofs.Wrappers.viaSpec m k g Gen.Deep.Map_LoadOrStore v).2 = (Spec.AMap.loadOrStore m k v).2) ∧
    ((Proofs.Wrappers.viaSpec m k g Gen.Deep.Map_LoadAndStore v).1 = (Spec.AMap.loadAndStore m k v).1.get k ∧
      (Proofs.Wrappers.viaSpec m k g Gen.Deep.Map_LoadAndStore v).2 = (Spec.AMap.loadAndStore m k v).2) ∧
    ((Proofs.Wrappers.viaSpec m k g Gen.Deep.Map_LoadOrCompute v).1 = (Spec.AMap.loadOrStore m k v).1.get k ∧
      (Proofs.Wrappers.viaSpec m k g Gen.Deep.Map_LoadOrCompute v).2 = (Spec.AMap.loadOrStore m k v).2) ∧
    ((Proofs.Wrappers.viaSpec m k g Gen.Deep.Map_Compute v).1 = (Spec.AMap.compute m k g).1.get k ∧
      (Proofs.Wrappers.viaSpec m k g Gen.Deep.Map_Compute v).2 = (Spec.AMap.compute m k g).2) ∧
    ((Proofs.Wrappers.viaSpec m k g Gen.Deep.Map_LoadAndDelete v).1 = (Spec.AMap.loadAndDelete m k).1.get k ∧
      (Proofs.Wrappers.viaSpec m k g Gen.Deep.Map_LoadAndDelete v).2 = (Spec.AMap.loadAndDelete m k).2) ∧
    ((Proofs.Wrappers.viaSpec m k g Gen.Deep.Map_Delete v).1 = (Spec.AMap.loadAndDelete m k).1.get k) :=
  ⟨(Proofs.Wrappers.store_spec m k v g _ (Or.inl rfl)).1,
   ⟨(Proofs.Wrappers.loadOrStore_spec m k v g _ (Or.inl rfl)).1, (Proofs.Wrappers.loadOrStore_spec m k v g _ (Or.inl rfl)).2.1⟩,
   ⟨(Proofs.Wrappers.loadAndStore_spec m k v g _ (Or.inl rfl)).1, (Proofs.Wrappers.loadAndStore_spec m k v g _ (Or.inl rfl)).2.1⟩,
   ⟨(Proofs.Wrappers.loadOrCompute_spec m k v g _ (Or.inl rfl)).1, (Proofs.Wrappers.loadOrCompute_spec m k v g _ (Or.inl rfl)).2.1⟩,
   ⟨(Proofs.Wrappers.compute_spec m k v g _ (Or.inl rfl)).1, (Proofs.Wrappers.compute_spec m k v g _ (Or.inl rfl)).2.1⟩,
   ⟨(Proofs.Wrappers.loadAndDelete_spec m k v g _ (Or.inl rfl)).1, (Proofs.Wrappers.loadAndDelete_spec m k v g _ (Or.inl rfl)).2.1⟩,
   (Proofs.Wrappers.delete_spec m k v g _ (Or.inl rfl)).1⟩

set_option linter.unusedVariables false in
/-- **M4a ⊕ M4b, the M4a half**: the lock-free lookup of the real code scans the bucket chain with several atomic
loads, and M4b (`C03_reader_hindsight`, `C04_reader_hindsight`) shows the scan returns the logical content of the chain
at *some instant during the scan* - an instant at which the M4a thread sits at its read pc.  The binding of the key in
the loaded generation at **any** such instant (`s1`) is a legal answer for a lookup whose call covers the interval: it
was the abstract binding at some state of the interval, or is what a writer helped by a `Clear` in the interval left.
So M4a's one-step chain read can stand for the scan. -/
theorem C03_C04_read_any_instant (hmin : 0 < p.minLen) (pre mid1 mid2 : List (Model.Proto.Tid × Choice K V))
    (s0 s1 s' : Model.Proto.St K V) (h0 : Model.Proto.run p (Model.Proto.init p) pre = some s0)
    (h1 : Model.Proto.run p s0 mid1 = some s1) (h2 : Model.Proto.run p s1 mid2 = some s') (t : Model.Proto.Tid) (k : K)
    (hstart : (s0.l t).pc ≠ .ldRead) (hpc : (s1.l t).pc = .ldRead) :
    let v := (s1.g.tables (s1.l t).tbl).data.get k
    (∃ x ∈ trace p s0 (mid1 ++ mid2), absGet x.g k = v) ∨
    (∃ e ∈ events p s0 (mid1 ++ mid2), ∃ u f lie co, HelpAt e u k f lie co ∧ v = (specDc f lie co (absGet e.pre.g k)).1) :=
  Proofs.ProtoCompose.read_any_instant p hmin pre mid1 mid2 s0 s1 h0 h1 t k hstart hpc

/-- **every completed `Clear` takes effect inside its interval** (every schedule; the call may lose the CAS on the
`resizing` flag to grows and shrinks any number of times - it waits and tries again, which is the repair of F4): between
the state in which thread `u` enters `Clear` and the state in which that call is at its return point there is a state
in which the current table is empty.  So no entry whose store completed before the `Clear` began is still present when
it returns, unless it was stored again after that instant. -/
theorem C03_C04_clear_takes_effect (hmin : 0 < p.minLen) (u : Model.Proto.Tid) (pre mid : List (Model.Proto.Tid × Choice K V))
    (s0 s1 : Model.Proto.St K V) (h0 : Model.Proto.run p (Model.Proto.init p) pre = some s0)
    (h1 : Model.Proto.run p s0 mid = some s1) (hstart : (s0.l u).pc = .clTable) (hret : (s1.l u).pc = .ret) :
    ∃ σ ∈ trace p s0 mid, ∀ k, absGet σ.g k = none :=
  Proofs.ProtoClear.clear_takes_effect p hmin u pre mid s0 s1 h0 h1 hstart hret

/-- the operations of M4a that the trace acceptor starts for the API calls of the real code are the calls of `doCompute`
those methods make in the working tree (both files: `Proofs.Wrappers.twins`) -/
theorem C03_C04_model_ops_are_methods [Inhabited V] (k : K) (x : V) (g : Option V → V × Bool) :
    Model.Proto.api "store" k x g = some (.dc k (Gen.Deep.Map_Store.fnOf x g) Gen.Deep.Map_Store.lie Gen.Deep.Map_Store.co) ∧
    Model.Proto.api "loadorstore" k x g = some (.dc k (Gen.Deep.Map_LoadOrStore.fnOf x g) Gen.Deep.Map_LoadOrStore.lie Gen.Deep.Map_LoadOrStore.co) ∧
    Model.Proto.api "loadandstore" k x g = some (.dc k (Gen.Deep.Map_LoadAndStore.fnOf x g) Gen.Deep.Map_LoadAndStore.lie Gen.Deep.Map_LoadAndStore.co) ∧
    Model.Proto.api "loadorcompute" k x g = some (.dc k (Gen.Deep.Map_LoadOrCompute.fnOf x g) Gen.Deep.Map_LoadOrCompute.lie Gen.Deep.Map_LoadOrCompute.co) ∧
    Model.Proto.api "compute" k x g = some (.dc k (Gen.Deep.Map_Compute.fnOf x g) Gen.Deep.Map_Compute.lie Gen.Deep.Map_Compute.co) ∧
    Model.Proto.api "loadanddelete" k x g = some (.dc k (Gen.Deep.Map_LoadAndDelete.fnOf x g) Gen.Deep.Map_LoadAndDelete.lie Gen.Deep.Map_LoadAndDelete.co) ∧
    Model.Proto.api "delete" k x g = some (.dc k (Gen.Deep.Map_Delete.fnOf x g) Gen.Deep.Map_Delete.lie Gen.Deep.Map_Delete.co) :=
  Proofs.Wrappers.api_is_wrappers k x g

/-! ### the global linearization of a run (`Proofs/ProtoHW.lean`)

`wlog ts H` is ONE sequential history per run, built from the steps of the run: a commit or lock-protected hit on the
current table contributes the call with its result; the publish step of a `Clear` contributes the writers it helps
(those past their re-checks on the retired table that go on to take effect on it) immediately followed by the `Clear`
itself. -/
section hw
open Proofs.ProtoHW

/-- **the linearization log is a legal builtin-map history and yields the abstract content of the final state**
(hence: a completed write is never lost, a deleted key never reappears, after `Clear` nothing stored before is left) -/
theorem C03_C04_log_legal_state (hmin : 0 < p.minLen) (ts : List Model.Proto.Tid)
    (sched : List (Model.Proto.Tid × Choice K V)) (s : Model.Proto.St K V)
    (hr : Model.Proto.run p (Model.Proto.init p) sched = some s) (hts : ∀ x ∈ sched, x.1 ∈ ts) :
    Legal (fun _ => none) (wlog ts (events p (Model.Proto.init p) sched)) ∧
    ∀ k, specFold (fun _ => none) (wlog ts (events p (Model.Proto.init p) sched)) k = absGet s.g k :=
  wlog_legal_state p hmin ts sched s hr hts

/-- **every completed writing call is in the log exactly once, at a step inside its interval, with its result**
(or it is a lock-free fast-path hit, which is a read: `C03_C04_fastpath_point`) -/
theorem C03_C04_writer_once (hmin : 0 < p.minLen) (ts : List Model.Proto.Tid)
    (pre mid post : List (Model.Proto.Tid × Choice K V)) (s0 s' s'' : Model.Proto.St K V)
    (h0 : Model.Proto.run p (Model.Proto.init p) pre = some s0) (h1 : Model.Proto.run p s0 mid = some s')
    (h2 : Model.Proto.run p s' post = some s'')
    (hts : ∀ x ∈ pre ++ mid ++ post, x.1 ∈ ts) (t : Model.Proto.Tid)
    (k : K) (f : Option V → V × Bool) (lie co : Bool) (a : Option V) (b : Bool)
    (hstart : (s0.l t).pc = .dcFast ∨ (s0.l t).pc = .dcLoadTable)
    (hn : NoRet t (events p s0 mid))
    (hop : (s'.l t).op = some (.dc k f lie co)) (hret : (s'.l t).pc = .ret)
    (hres : (s'.l t).result = some (.val a b)) :
    let C := contrib ts (events p (Model.Proto.init p) (pre ++ mid ++ post))
    let inside := ((C.drop pre.length).take mid.length).flatten
    (∃ before after, inside = before ++ [⟨t, .dc k f lie co, .val a b⟩] ++ after ∧
        (∀ x ∈ before ++ after, x.tid ≠ t)) ∨
    (lie = true ∧ (∀ x ∈ inside, x.tid ≠ t) ∧ ∃ x, a = some x ∧ b = (!co)) :=
  writer_once p hmin ts pre mid post s0 s' s'' h0 h1 h2 hts t k f lie co a b hstart hn hop hret hres

/-- **every completed `Load` returns the binding of its key after a log prefix that ends inside its interval** -/
theorem C03_C04_reader_point (hmin : 0 < p.minLen) (ts : List Model.Proto.Tid)
    (pre mid post : List (Model.Proto.Tid × Choice K V)) (s0 s' s'' : Model.Proto.St K V)
    (h0 : Model.Proto.run p (Model.Proto.init p) pre = some s0) (h1 : Model.Proto.run p s0 mid = some s')
    (h2 : Model.Proto.run p s' post = some s'')
    (hts : ∀ x ∈ pre ++ mid ++ post, x.1 ∈ ts) (t : Model.Proto.Tid) (k : K) (v : Option V) (b : Bool)
    (hstart : (s0.l t).pc = .ldTable)
    (hn : NoRet t (events p s0 mid))
    (hop : (s'.l t).op = some (.load k)) (hret : (s'.l t).pc = .ret) (hres : (s'.l t).result = some (.val v b)) :
    let C := contrib ts (events p (Model.Proto.init p) (pre ++ mid ++ post))
    let before := (C.take pre.length).flatten
    let inside := ((C.drop pre.length).take mid.length).flatten
    b = v.isSome ∧ ∃ n, n ≤ inside.length ∧ specFold (fun _ => none) (before ++ inside.take n) k = v :=
  reader_point p hmin ts pre mid post s0 s' s'' h0 h1 h2 hts t k v b hstart hn hop hret hres

/-- the same for the lock-free fast-path hit of `LoadOrStore` / `LoadOrCompute` -/
theorem C03_C04_fastpath_point (hmin : 0 < p.minLen) (ts : List Model.Proto.Tid)
    (pre mid post : List (Model.Proto.Tid × Choice K V)) (s0 s' s'' : Model.Proto.St K V)
    (h0 : Model.Proto.run p (Model.Proto.init p) pre = some s0) (h1 : Model.Proto.run p s0 mid = some s')
    (h2 : Model.Proto.run p s' post = some s'')
    (hts : ∀ x ∈ pre ++ mid ++ post, x.1 ∈ ts) (t : Model.Proto.Tid)
    (k : K) (f : Option V → V × Bool) (co : Bool) (x : V)
    (hstart : (s0.l t).pc = .dcFast)
    (hn : NoRet t (events p s0 mid))
    (hop : (s'.l t).op = some (.dc k f true co)) (hret : (s'.l t).pc = .ret)
    (hres : (s'.l t).result = some (.val (some x) (!co))) :
    let C := contrib ts (events p (Model.Proto.init p) (pre ++ mid ++ post))
    let before := (C.take pre.length).flatten
    let inside := ((C.drop pre.length).take mid.length).flatten
    (∀ y ∈ inside, y.tid ≠ t) →
    ∃ n, n ≤ inside.length ∧ specFold (fun _ => none) (before ++ inside.take n) k = some x :=
  fastpath_point p hmin ts pre mid post s0 s' s'' h0 h1 h2 hts t k f co x hstart hn hop hret hres

/-- **from linearization points to Herlihy–Wing's permutation wording** (generic, `Spec/Linearizability.lean`): calls
ordered by linearization times that lie inside their intervals, forming a legal sequential history, are a
Herlihy–Wing witness (same calls, legal, real-time precedence preserved).  The log theorems above provide these
ingredients for every run of M4a; the instantiation is not written out. -/
theorem C03_C04_points_give_hw_witness {S O R : Type} (step : S → O → S × R) (s0 : S) (H L : List (Spec.HW.Call O R))
    (hperm : L.Perm H) (hlegal : Spec.HW.legal step s0 L)
    (hin : ∀ c ∈ H, c.inv ≤ c.lp ∧ c.lp ≤ c.resp)
    (hsorted : L.Pairwise fun a b => a.lp ≤ b.lp) : Spec.HW.Witness step s0 H L :=
  Spec.HW.witness_of_points step s0 H L hperm hlegal hin hsorted

end hw

def exP : Model.Proto.Params Nat := { growThr := fun n => n * 9 / 4, shrinkThr := fun n => n * 3 / 128, bkt := fun _ k => k, minLen := 2, growOnly := false, stripes := fun _ => 8 }

/-- non-vacuity: a concrete run meets every hypothesis of `C03_C04_writer_linearizable` (a `Store(1, 5)` on the empty
map, started at the end of `pre`, returning at the end of `mid`) -/
example : ∃ (s0 s' : Model.Proto.St Nat Nat),
    Model.Proto.run exP (Model.Proto.init exP)
      [(0, { op := some (.dc 1 (fun _ => (5, false)) false false) })] = some s0 ∧
    Model.Proto.run exP s0 (List.replicate 10 (0, {})) = some s' ∧
    (s0.l 0).pc = .dcLoadTable ∧ (s'.l 0).pc = .ret ∧ (s'.l 0).result = some (.val (some 5) false) ∧
    absGet s'.g 1 = some 5 := ⟨_, _, rfl, rfl, rfl, rfl, rfl, rfl⟩

/-- non-vacuity of `C03_C04_clear_takes_effect`: after `Store(1, 5)` by thread 0, thread 1 runs `Clear` to its return
point; the hypotheses hold and the content, non-empty when the call began, is empty when it returns -/
example : ∃ (s0 s1 : Model.Proto.St Nat Nat),
    Model.Proto.run exP (Model.Proto.init exP)
      ((0, { op := some (.dc 1 (fun _ => (5, false)) false false) }) :: List.replicate 11 (0, ({} : Choice Nat Nat)) ++ [(1, { op := some .clear })]) = some s0 ∧
    Model.Proto.run exP s0 (List.replicate 10 (1, ({} : Choice Nat Nat))) = some s1 ∧
    (s0.l 1).pc = .clTable ∧ (s1.l 1).pc = .ret ∧ absGet s0.g 1 = some 5 ∧ absGet s1.g 1 = none :=
  ⟨_, _, rfl, rfl, rfl, rfl, rfl, rfl⟩

end proto

end Props.C03
