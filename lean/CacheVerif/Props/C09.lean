import CacheVerif.Proofs.CacheRefine
import CacheVerif.Proofs.Twin
import CacheVerif.Proofs.ConcCacheLin
import CacheVerif.Proofs.DeepSource
/-!
# C09 — expiration instants are computed and reported exactly as the TTL dictates

All statements are for every TTL argument `d : Int` (so −2 s, −1 s, −1 ns, 0, 1 ns, huge are instances),
every default, every clock value and every state; they are stated on `Model.Cache` and hold for
`Model.CacheOf` by `C09_twin`.  The decision code (`expiration`, `configDefault`, the sentinels) is
machine-translated from the working tree on every run, so these theorems are proved about the code as it stands.
-/
namespace Props.C09
open Spec Model Model.Cache Proofs.LeafCache Proofs.CacheRefine

variable {K V : Type} [DecidableEq K] [Inhabited V]

/-- **the expiration instant of a store**: `d > 0` → call time + `d`; `d = DefaultExpiration` → the default
in force (if that is ≥ 1 ns, else never); every other `d ≤ 0` → never (`0`) -/
theorem C09_expiration (d dflt now : Int) :
    Gen.expiration d dflt now =
      if d = -1000000000 then (if dflt > 0 then now + dflt else 0)
      else if d > 0 then now + d else 0 := by
  rw [Proofs.LeafCache.expiration_eq]
  simp only [TTL.expiration, TTL.DefaultExpiration]
  by_cases h : d = -1000000000 <;> simp [h]

theorem C09_expirationOf (d dflt now : Int) : Gen.expirationOf d dflt now = Gen.expiration d dflt now :=
  Proofs.Twin.leaf_expiration_eq d dflt now

theorem C09_sentinels : Gen.DefaultExpiration = -1000000000 ∧ Gen.NoExpiration = -2000000000 := ⟨rfl, rfl⟩

/-- **constructor normalisation** (`configDefault`, both twins; applied on every constructor path): a default
below 1 ns becomes NoExpiration, a negative cleanup interval 0, a capacity below 96 becomes 96 -/
theorem C09_config (c : Gen.Config) :
    (Gen.configDefault (some c)).defaultExpiration = (if c.defaultExpiration < 1 then -2000000000 else c.defaultExpiration) ∧
    (Gen.configDefault (some c)).cleanupInterval = (if c.cleanupInterval < 0 then 0 else c.cleanupInterval) ∧
    (Gen.configDefault (some c)).minCapacity = (if c.minCapacity < 96 then 96 else c.minCapacity) ∧
    Gen.configDefaultOf (some c) = Gen.configDefault (some c) ∧
    Gen.configDefault none = { defaultExpiration := -2000000000, cleanupInterval := 10000000000, minCapacity := 96, hasCallback := false } := by
  refine ⟨?_, ?_, ?_, configDefaultOf_eq _, rfl⟩ <;> rw [configDefault_spec] <;> rfl

/-- every constructor variant installs the normalised default -/
theorem C09_constructed_default (c : Cache.Ctor) (now : Int) :
    (Cache.construct (K := K) (V := V) c now).1.dflt =
      match c with
      | .newOpts (some d) _ _ _ => if d < 1 then -2000000000 else d
      | .newOpts none _ _ _ => -2000000000
      | .newDefault d _ _ => if d < 1 then -2000000000 else d
      -- the default set twice in one option list: the later option wins, whatever the earlier one was
      | .newOptsOver _ d _ _ _ => if d < 1 then -2000000000 else d := by
  rw [construct_eq_newXsyncMap]
  cases c <;> simp only <;> rw [newXsyncMap_fst _ _ now rfl]
  case newOpts d _ _ _ => cases d <;> rfl
  all_goals rfl

/-- **re-arming**: after `Set`, `GetAndSet`, `GetAndRefresh` (hit), a storing `Compute`, and a storing
`GetOrSet`/`GetOrCompute`, the stored instant is `expiration d` of the default and clock *at that call* -/
theorem C09_rearm_set (s : St K V) (k : K) (v : V) (d : Int) :
    (step s (.set k v d)).1.items.get k = some ⟨v, Gen.expiration d s.dflt s.now⟩ := by
  simp [step, Cache.set, AMap.store, AMap.get_set, Cache.expiration]

theorem C09_rearm_getAndSet (s : St K V) (k : K) (v : V) (d : Int) :
    (step s (.getAndSet k v d)).1.items.get k = some ⟨v, Gen.expiration d s.dflt s.now⟩ := by
  simp only [step]
  cases s.items.get k with
  | none => simp [AMap.get_compute, Cache.expiration]
  | some i => by_cases he : Cache.expired s i = true <;> simp [he, AMap.get_compute, Cache.expiration]

theorem C09_rearm_refresh (s : St K V) (k : K) (d : Int) (i : Item V)
    (hg : s.items.get k = some i) (hl : Cache.expired s i = false) :
    (step s (.getAndRefresh k d)).1.items.get k = some ⟨i.v, Gen.expiration d s.dflt s.now⟩ := by
  simp [step, AMap.compute_eq, hg, refreshFn, hl, AMap.get_set, Cache.expiration]

theorem C09_rearm_compute (s : St K V) (k : K) (g : Option V → V × Bool) (d : Int)
    (hs : (g (liveOld s (s.items.get k))).2 = false) :
    (step s (.compute k g d)).1.items.get k =
      some ⟨(g (liveOld s (s.items.get k))).1, Gen.expiration d s.dflt s.now⟩ := by
  simp [step, AMap.compute_eq, computeFn, hs, AMap.get_set, Cache.expiration]

theorem C09_rearm_getOrSet_miss (s : St K V) (k : K) (v : V) (d : Int)
    (hm : ∀ i, s.items.get k = some i → Cache.expired s i = true) :
    (step s (.getOrSet k v d)).1.items.get k = some ⟨v, Gen.expiration d s.dflt s.now⟩ ∧
    (step s (.getOrCompute k v d)).1.items.get k = some ⟨v, Gen.expiration d s.dflt s.now⟩ := by
  have : getOrSetFn s v d (s.items.get k) = (⟨v, Gen.expiration d s.dflt s.now⟩, false) := by
    cases hg : s.items.get k with
    | none => rfl
    | some i => simp [getOrSetFn, hm i hg, Cache.expiration]
  simp [step, AMap.get_compute, this]

/-- **reads leave the expiry untouched**: a hit in `Get*`, `GetOrSet`, `GetOrCompute` keeps the stored item -/
theorem C09_untouched (s : St K V) (k : K) (v : V) (d : Int) (i : Item V)
    (hg : s.items.get k = some i) (hl : Cache.expired s i = false) :
    (step s (.get k)).1.items.get k = some i ∧ (step s (.getWithTTL k)).1.items.get k = some i ∧
    (step s (.getWithExpiration k)).1.items.get k = some i ∧
    (step s (.getOrSet k v d)).1.items.get k = some i ∧ (step s (.getOrCompute k v d)).1.items.get k = some i ∧
    (step s (.range fun _ _ => true)).1 = s ∧ (step s .items).1 = s := by
  refine ⟨?_, ?_, ?_, ?_, ?_, rfl, rfl⟩ <;>
    simp [step, Cache.get, AMap.load_eq, AMap.get_compute, hg, hl, getOrSetFn]

/-- **exact reporting**: `GetWithExpiration` reports the stored instant (zero time when there is none),
`GetWithTTL` the time remaining to it at the call (NoExpiration when there is none) -/
theorem C09_report (s : St K V) (k : K) (i : Item V) (hg : s.items.get k = some i) (hl : Cache.expired s i = false) :
    (step s (.getWithExpiration k)).2.out = .valExp i.v (if i.e > 0 then i.e else 0) true ∧
    (step s (.getWithTTL k)).2.out = .valTTL i.v (if i.e > 0 then i.e - s.now else -2000000000) true := by
  constructor <;> simp [step, Cache.get, AMap.load, hg, hl, Gen.NoExpiration]

/-- **exact reporting, concurrent calls** (M5, `Model.ConcCache`; every schedule): the step at which `GetWithTTL` of an
entry with an expiration instant computes the remaining lifetime reads the clock *again* (`time.Until`): it reports
the value of the item `i` the call found, `true`, and `i.e - now` for the clock of that step — not the clock of the
earlier step at which `i` was found live (`t0 ≤ now`); so the reported lifetime is at most `i.e - t0` (and is negative
if the clock passed `i.e` in between).  Every other hit of the family reports as in `C09_report`, with the clock of the
step that finds the item (`ConcCache.hitResult`). -/
theorem C09_report_ttl_conc (dflt : Int) (cb : Option Nat) (now : Int) (h0 : 0 ≤ now) (s s' : ConcCache.St K V)
    (t : ConcCache.Tid) (c : ConcCache.Choice K V) (δ : Nat) (hr : ConcCache.Reach dflt cb now s)
    (hs : ConcCache.step s (some t) c δ = some s') (hpc : (s.l t).pc = .getTTLClock) :
    ∃ i k t0, (s.l t).loaded = some i ∧ (s.l t).op = some (.getWithTTL k) ∧ 0 < i.e ∧
      t0 ≤ s.g.now ∧ TTL.expired i.e t0 = false ∧
      (s'.l t).result = some (.valTTL i.v (i.e - s.g.now) true) ∧ i.e - s.g.now ≤ i.e - t0 := by
  obtain ⟨_, hl, hst, _, _⟩ := Proofs.ConcCacheLin.reach_tstep h0 hr hs
  obtain ⟨_, i, k, t0, a1, a2, a3, _, a5, a6, _, a8, a9⟩ :=
    Proofs.ConcCacheLin.get_ttl_clock t s.g (s.l t) c s'.g (s'.l t) hl hpc hst
  exact ⟨i, k, t0, a1, a2, a3, a5, a6, a8, a9⟩

/-- **changing the default never alters entries already stored** -/
theorem C09_default_isolated (s : St K V) (d : Int) :
    (step s (.setDefaultExpiration d)).1.items = s.items ∧ (step s (.setDefaultExpiration d)).1.dflt = d ∧
    (step (step s (.setDefaultExpiration d)).1 .defaultExpiration).2.out = .dur d := ⟨rfl, rfl, rfl⟩

/-- the generic twin computes the same -/
theorem C09_twin (s : CSt K V) (op : Op K V) : CacheOf.step s op = Cache.step s op := Proofs.Twin.step_eq s op

/-! ### For the source text -/

/-- **C09 for the text of `Set` (and `expiration`) in both files**: after `Set(k, v, d)` the entry's instant is
`now + d` for `d > 0`, `now + default` for `d = DefaultExpiration` with a positive default in force, and
"never" (0) otherwise - computed by the interpreter from the generated syntax of `Set`, `expiration` and
`DefaultExpiration`. -/
theorem C09_source_set (s : CSt K V) (k : K) (v : V) (d : Int) (T : Deep.Twin K V)
    (hT : DeepSource.IsTwin T) :
    ∃ s' r, Deep.deepStep T s (.set k v d) = some (s', r) ∧
      s'.items.get k = some ⟨v, TTL.expiration d s.dflt s.now⟩ := by
  exact ⟨_, _, DeepSource.step s _ T hT, (C09_rearm_set s k v d).trans (by rw [Proofs.LeafCache.expiration_eq])⟩

/-- a user function that takes time: the entry stored by `GetOrCompute` on an absent key lives `d` from the moment
the function returned (`δ` after the call began), in the text of both files -/
theorem C09_source_slow_loader (s : CSt K V) (k : K) (f : V) (d : Int) (δ : Nat) (ha : s.items.get k = none)
    (T : Deep.Twin K V) (hT : DeepSource.IsTwin T) :
    ∃ s' r, Deep.deepStep T s (.getOrComputeSlow k f d δ) = some (s', r) ∧
      s'.now = s.now + δ ∧ s'.items.get k = some ⟨f, TTL.expiration d s.dflt (s.now + δ)⟩ := by
  have h : (Cache.step s (.getOrComputeSlow k f d δ)).1.now = s.now + δ ∧
      (Cache.step s (.getOrComputeSlow k f d δ)).1.items.get k = some ⟨f, TTL.expiration d s.dflt (s.now + δ)⟩ := by
    simp [Cache.step, AMap.compute, ha, AMap.get_set, Cache.expiration, Proofs.LeafCache.expiration_eq]
  exact ⟨_, _, DeepSource.step s _ T hT, h⟩

/-! ### Non-vacuity -/
example : Gen.expiration (-1) 50 1000 = 0 ∧ Gen.expiration 0 50 1000 = 0 ∧ Gen.expiration 1 50 1000 = 1001 ∧
    Gen.expiration (-1000000000) 50 1000 = 1050 ∧ Gen.expiration (-1000000000) 0 1000 = 0 ∧
    Gen.expiration (-2000000000) 50 1000 = 0 := by decide
example : (Cache.construct (K := String) (V := Nat) (.newDefault 0 0 none) 5).1.dflt = -2000000000 := by decide

end Props.C09
